import Proofs.CivilJdn
import Proofs.CivilStep
import Proofs.CivilArith
import Proofs.FmtOrder
import Proofs.WFDefs
import Proofs.Convert
import Proofs.GenAstroOK
import Proofs.JiaZi
import Proofs.JieQiSpec
import Proofs.CivilFestSpec
import Proofs.Pillars
import Proofs.WeekSpec
import Proofs.SeasonSpec
import Proofs.NineStarSpec
import Proofs.CacheProto
import Proofs.RenderSpec
import Proofs.YunSpec
import Proofs.AlmanacSpec
import Proofs.TaoFotoSpec
import Proofs.BaZiSpec
import Proofs.MonthNav
import Proofs.HolidaySpec
import Proofs.HolidayData
import Proofs.FnCivil1
import Proofs.FnCivil2
import Proofs.FnContains
import Proofs.FnMiscBase
import Proofs.FnNineStar
import Proofs.FnPillars
import Proofs.FnS1
import Proofs.FnS2
import Proofs.FnS3
import Proofs.FnSBase
import Proofs.FnSFmt
import Proofs.FnSRender
import Proofs.FnSTaoFoto
import Proofs.FnSXingZuo
import Proofs.FnSYearObj
import Proofs.FnSeason
import Proofs.FnSolarMonth
import Proofs.FnTaoFoto
import Proofs.FnUnits
import Proofs.FnWeek
import Proofs.FnYun
import Proofs.FnYunStart
import Proofs.FnSDecoders
import Proofs.FnSFestBase
import Proofs.FnSLunarFest
import Proofs.FnSSolarFest
import Proofs.FnSHou
import Proofs.FnSTaoDay
import Proofs.FnSNineStarObj
import Proofs.FnSTimeZhi
import Proofs.FnSHex
import Proofs.FnE2ECivil
import Proofs.FnE2EPillars
import Proofs.FnE2EStar
import Proofs.FnE2EWeeks
import Proofs.FnSolarNext
import Proofs.FnWeekNext
import Proofs.FnSFortune
import Proofs.FnExamples
import Proofs.FnSStars
import Proofs.FnSRoutes
import Proofs.FnSCongr
import Proofs.FnSJieQi
import Proofs.AstroFast
