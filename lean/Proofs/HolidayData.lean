/-
Proofs.HolidayData — kernel-checked facts about the REGENERATED holiday table
`Gen.Tables.HolidayUtil.data` (821 records of 18 digits).

How the string is reached.  In this toolchain `String` is a structure over a UTF-8 `ByteArray`;
`String.toList` / `String.length` of a 14 778-character literal do not reduce in the kernel in any
reasonable time, and `decide +kernel` of a `String` equality runs through `ByteArray`s as well
(measured: > 9 min, then "deterministic timeout").  What the kernel CAN do cheaply is its built-in
conversion of a string literal `"…"` to `String.ofList [Char.ofNat …, …]`.  So:
  * `holiday_data_chars%` is a small term elaborator that reads the literal in the definition of
    `Gen.Tables.HolidayUtil.data` and produces the explicit list `dataChars : List Char`;
  * `data_eq : Gen.Tables.HolidayUtil.data = String.ofList dataChars` is `Eq.refl`, checked by the
    KERNEL (`kernel_rfl` only skips the elaborator's own, very slow, defeq pre-check; a wrong list would
    be rejected by the kernel when the theorem is added);
  * all other facts are `decide +kernel` over `dataChars` (never `List.length` of a long list, which
    recurses too deeply in the kernel). Every `decide +kernel` cuts `dataChars` into records again, so
    facts that are read off the same pass are decided together.
No axioms at all are used by `data_eq`; nothing here is `native_decide`/`unsafe`.
-/
import Lean
import Proofs.HolidaySpec
import Gen.Tables
namespace Model
namespace HolidayData

open Lean Elab Tactic Meta in
/-- closes `a = b` with `Eq.refl a`, leaving the definitional-equality check to the kernel -/
elab "kernel_rfl" : tactic => do
  let g ← getMainGoal
  let t ← instantiateMVars (← g.getType)
  match t.eq? with
  | some (α, a, _) =>
    let u ← getLevel α
    g.assign (mkApp2 (mkConst ``Eq.refl [u]) α a)
  | none => throwError "kernel_rfl: not an equality"

open Lean Elab Term Meta in
/-- the explicit `List Char` of the string literal that defines `Gen.Tables.HolidayUtil.data` -/
elab "holiday_data_chars%" : term => do
  let some (.defnInfo v) := (← getEnv).find? ``Gen.Tables.HolidayUtil.data | throwError "no data"
  let .lit (.strVal s) := v.value | throwError "not a literal"
  let mut e := mkApp (mkConst ``List.nil [Level.zero]) (mkConst ``Char)
  for c in s.toList.reverse do
    e := mkApp3 (mkConst ``List.cons [Level.zero]) (mkConst ``Char)
      (mkApp (mkConst ``Char.ofNat) (mkRawNatLit c.toNat)) e
  return e

set_option maxRecDepth 1000000 in
noncomputable def dataChars : List Char := holiday_data_chars%

/-- kernel-checked: the table string IS the explicit character list -/
theorem data_eq : Gen.Tables.HolidayUtil.data = String.ofList dataChars := by kernel_rfl

theorem data_toList : Gen.Tables.HolidayUtil.data.toList = dataChars := by
  rw [data_eq, String.toList_ofList]

/-- `l.length = n`, evaluated iteratively -/
def lenIs {α} : List α → Nat → Bool
  | [], n => n == 0
  | _ :: t, n => match n with
    | 0 => false
    | n + 1 => lenIs t n

theorem lenIs_sound {α} (l : List α) (n : Nat) (h : lenIs l n = true) : l.length = n := by
  induction l generalizing n with
  | nil => rw [lenIs, beq_iff_eq] at h; rw [h]; rfl
  | cons a t ih =>
    cases n with
    | zero => simp [lenIs] at h
    | succ n => rw [List.length_cons, ih n h]

def chunk18 : Nat → List Char → List (List Char)
  | 0, _ => []
  | f + 1, l => match l with
    | [] => []
    | c :: cs => (c :: cs).take 18 :: chunk18 f ((c :: cs).drop 18)

theorem chunk18_flatten (f : Nat) (l : List Char) (h : l.length ≤ f) : (chunk18 f l).flatten = l := by
  induction f generalizing l with
  | zero => rw [List.eq_nil_of_length_eq_zero (l := l) (by omega)]; rfl
  | succ f ih =>
    cases l with
    | nil => rfl
    | cons c cs =>
      rw [chunk18, List.flatten_cons, ih _ (by rw [List.length_drop]; omega), List.take_append_drop]

theorem chunk18_wf (f : Nat) (l : List Char) (h : l.length ≤ f) (h18 : l.length % 18 = 0) :
    ∀ r ∈ chunk18 f l, r.length = 18 := by
  induction f generalizing l with
  | zero => simp [chunk18]
  | succ f ih =>
    cases l with
    | nil => simp [chunk18]
    | cons c cs =>
      have hl : 18 ≤ (c :: cs).length := by rw [List.length_cons] at h18 ⊢; omega
      rw [chunk18, List.forall_mem_cons, List.length_take]
      exact ⟨by omega, ih _ (by rw [List.length_drop]; omega) (by rw [List.length_drop]; omega)⟩

noncomputable def dataRecs : List (List Char) := chunk18 1000000 dataChars

theorem dataChars_length : dataChars.length = 14778 :=
  lenIs_sound _ _ (by decide +kernel)

/-- the table is the concatenation of `dataRecs` … -/
theorem data_flat : Gen.Tables.HolidayUtil.data.toList = dataRecs.flatten := by
  rw [data_toList, dataRecs, chunk18_flatten _ _ (by rw [dataChars_length]; decide)]

/-- … which are 821 records of 18 characters -/
theorem data_wf : ∀ r ∈ dataRecs, r.length = 18 :=
  chunk18_wf _ _ (by rw [dataChars_length]; decide) (by rw [dataChars_length])

theorem dataRecs_length : dataRecs.length = 821 := by
  have := flatten_length_eq_mul dataRecs data_wf
  rw [← data_flat, data_toList, dataChars_length] at this
  omega

theorem data_len : Gen.Tables.HolidayUtil.data.length % 18 = 0 := by
  rw [data_eq, String.length_ofList, dataChars_length]

theorem data_size : Gen.Tables.HolidayUtil.size = 18 := rfl

theorem data_digits : Gen.Tables.HolidayUtil.data.toList.all Char.isDigit = true := by
  rw [data_toList]; decide +kernel

theorem data_fields_ok : ∀ r ∈ dataRecs,
    (48 ≤ (r.getD 8 '0').toNat ∧ (r.getD 8 '0').toNat - 48 < Gen.Tables.HolidayUtil.NAMES.length) ∧
      (r.getD 9 ' ' = '0' ∨ r.getD 9 ' ' = '1') := by decide +kernel

/-- every record's name digit indexes into `NAMES` (9 names) -/
theorem data_names_ok : ∀ r ∈ dataRecs,
    48 ≤ (r.getD 8 '0').toNat ∧ (r.getD 8 '0').toNat - 48 < Gen.Tables.HolidayUtil.NAMES.length :=
  fun r hr => (data_fields_ok r hr).1

/-- hence `buildHolidayForward` never panics on a record of the table -/
theorem data_buildable (data : List Char) : ∀ r ∈ dataRecs,
    (buildForward ⟨data, Gen.Tables.HolidayUtil.NAMES⟩ r).isSome = true := by
  intro r hr
  obtain ⟨h1, h2⟩ := data_names_ok r hr
  rw [buildForward, if_neg (by rw [data_wf r hr, recSize]; omega), if_neg (by simp only []; omega)]
  rfl

/-- strictly increasing under `cmpChars ∘ f`, evaluated iteratively -/
def sortedBy (f : List Char → List Char) : List (List Char) → Bool
  | a :: b :: t => strLt (f a) (f b) && sortedBy f (b :: t)
  | _ => true

/-- neighbours suffice, `cmpChars · · = .lt` being transitive -/
theorem sortedBy_sound (f : List Char → List Char) :
    ∀ l, sortedBy f l = true → l.Pairwise (fun a b => cmpChars (f a) (f b) = .lt)
  | [], _ => .nil
  | [a], _ => List.pairwise_singleton _ _
  | a :: b :: t, h => by
    simp only [sortedBy, Bool.and_eq_true, strLt, beq_iff_eq] at h
    have hb := sortedBy_sound f (b :: t) h.2
    refine List.pairwise_cons.2 ⟨fun c hc => ?_, hb⟩
    rcases List.mem_cons.1 hc with rfl | hc
    · exact h.1
    · rw [cmpChars_lt_iff] at h ⊢
      exact List.lt_trans h.1 ((cmpChars_lt_iff _ _).1 ((List.pairwise_cons.1 hb).1 c hc))

/-- the records are strictly increasing by their 8-digit day (this is `SortedByDay dataRecs` of
`Proofs.HolidaySpec`, unfolded) -/
theorem data_sorted : dataRecs.Pairwise (fun a b => cmpChars (a.take 8) (b.take 8) = .lt) :=
  sortedBy_sound (fun r => r.take 8) dataRecs (by decide +kernel)

theorem ne_of_cmpChars_lt {a b : List Char} (h : cmpChars a b = .lt) : a ≠ b :=
  fun e => List.lt_irrefl b (e ▸ (cmpChars_lt_iff a b).1 h)

/-- hence no day occurs twice -/
theorem data_days_unique : dataRecs.Pairwise (fun a b => a.take 8 ≠ b.take 8) :=
  data_sorted.imp ne_of_cmpChars_lt


/-! ## by-target contiguity

The by-target view of the model, `findHolidaysBackward`, filters ALL aligned records by their target suffix and
does not depend on contiguity (`backward_view_eq_filter` in Proofs.HolidaySpec). The lookup the library had
before its `fix:` commit (one contiguous run ending at the `strings.LastIndex` hit:
`hol_findHolidaysBackwardOld`, `hol_backwardRunOld_spec`, `hol_backwardOld_view_eq_filter`) did; this section
shows that the table breaks its hypothesis on exactly three targets. -/

/-- the hypothesis `hc` of `hol_backwardOld_view_eq_filter` (Proofs.HolidaySpec; the OLD by-target algorithm) -/
def TargetContiguous (recs : List (List Char)) (key : List Char) : Prop :=
  ∀ a b c : List Char, ∀ l1 l2 l3 l4, recs = l1 ++ [a] ++ l2 ++ [b] ++ l3 ++ [c] ++ l4 →
    a.drop 10 = key → c.drop 10 = key → b.drop 10 = key

/-- keep the last element of every run of equal neighbours -/
def compress {α} [BEq α] : List α → List α
  | [] => []
  | a :: t => match t with
    | [] => [a]
    | b :: _ => if a == b then compress t else a :: compress t

section
variable {α γ} [BEq α]

theorem compress_cons_cons (a b : α) (t : List α) :
    compress (a :: b :: t) = if a == b then compress (b :: t) else a :: compress (b :: t) := by
  rw [compress]

theorem count_compress_le_append (key : α) (w t : List α) :
    (compress t).count key ≤ (compress (w ++ t)).count key := by
  induction w with
  | nil => exact Nat.le_refl _
  | cons a w ih =>
    refine Nat.le_trans ih ?_
    rw [List.cons_append]
    cases w ++ t with
    | nil => simp [compress]
    | cons b u =>
      rw [compress_cons_cons]
      split
      · exact Nat.le_refl _
      · rw [List.count_cons]; omega

theorem one_le_count_compress [LawfulBEq α] (key : α) (t : List α) (h : key ∈ t) : 1 ≤ (compress t).count key := by
  induction t with
  | nil => simp at h
  | cons a t ih =>
    cases t with
    | nil => simp_all [compress]
    | cons b t =>
      rw [compress_cons_cons]
      split
      · rename_i hab
        cases eq_of_beq hab
        exact ih (by simpa using h)
      · rw [List.count_cons]
        rcases List.mem_cons.1 h with rfl | h
        · simp
        · have := ih h; omega

theorem two_le_count_compress [LawfulBEq α] (key x : α) (u v : List α) (hx : x ≠ key) (hv : key ∈ v) :
    2 ≤ (compress (key :: (u ++ x :: v))).count key := by
  induction u with
  | nil =>
    have := one_le_count_compress key (x :: v) (by simp [hv])
    rw [List.nil_append, compress_cons_cons, if_neg (fun h => hx (eq_of_beq h).symm), List.count_cons_self]
    omega
  | cons y u ih =>
    rw [List.cons_append, compress_cons_cons]
    split
    · rename_i hy
      rw [← eq_of_beq hy]; exact ih
    · have := one_le_count_compress key (y :: (u ++ x :: v)) (by simp [hv])
      rw [List.count_cons_self]
      omega

/-- soundness of the run-count test -/
theorem contiguous_of_count [LawfulBEq α] (f : γ → α) (key : α) (l : List γ)
    (h : (compress (l.map f)).count key ≤ 1) (a b c : γ) (l1 l2 l3 l4 : List γ)
    (hl : l = l1 ++ [a] ++ l2 ++ [b] ++ l3 ++ [c] ++ l4) (ha : f a = key) (hc : f c = key) : f b = key := by
  refine Classical.byContradiction fun hb => ?_
  have e : l.map f = l1.map f ++ key :: (l2.map f ++ f b :: (l3.map f ++ key :: l4.map f)) := by
    rw [hl]; simp [ha, hc]
  rw [e] at h
  have := Nat.le_trans (two_le_count_compress key (f b) (l2.map f) (l3.map f ++ key :: l4.map f) hb (by simp))
    (count_compress_le_append key (l1.map f) _)
  omega

end

/-- records `i`, `i + 1`, `i + 2`: the outer two have target `key`, the middle one has not -/
def gapAt (recs : List (List Char)) (key : List Char) (i : Nat) : Bool :=
  match recs.drop i with
  | a :: b :: c :: _ => a.drop 10 == key && b.drop 10 != key && c.drop 10 == key
  | _ => false

theorem not_contiguous_of_gapAt {recs : List (List Char)} {key : List Char} {i : Nat}
    (h : gapAt recs key i = true) : ¬ TargetContiguous recs key := by
  unfold gapAt at h
  split at h
  · rename_i a b c rest e
    simp only [Bool.and_eq_true, beq_iff_eq, bne_iff_ne] at h
    exact fun hc => h.1.2 (hc a b c (recs.take i) [] [] rest
      (by simp [← e]) h.1.1 h.2)
  · cases h

def t2014 : List Char := ['2', '0', '1', '4', '1', '0', '0', '1']
def t2015 : List Char := ['2', '0', '1', '5', '1', '0', '0', '1']
def t2017 : List Char := ['2', '0', '1', '7', '1', '0', '0', '1']

/-- the targets whose records are NOT contiguous in the table: National Day 2014, 2015, 2017 -/
def badTargets : List (List Char) := [t2014, t2015, t2017]

noncomputable def dataRuns : List (List Char) := compress (dataRecs.map (fun r => r.drop 10))

/-- the table has 154 runs of equal targets; each of the three `badTargets` occurs in exactly two runs
(its records are interrupted by one record of another festival: records 418–421 and 423–426 have target
20141001, record 422 not; 455–457 and 459–462 have 20151001, 458 not; 521–524 and 526–529, days
2017-09-30 … 10-03 and 10-05 … 10-08, have 20171001, record 525, the Mid-Autumn day 2017-10-04, has
20171004), and all the other runs have pairwise different — indeed strictly increasing — targets -/
theorem data_runs :
    dataRuns.length = 154 ∧
    dataRuns.filter (fun k => badTargets.contains k) = [t2014, t2014, t2015, t2015, t2017, t2017] ∧
    (dataRuns.filter (fun k => !badTargets.contains k)).Pairwise (fun a b => cmpChars a b = .lt) := by
  have h : (lenIs dataRuns 154 &&
      dataRuns.filter (fun k => badTargets.contains k) == [t2014, t2014, t2015, t2015, t2017, t2017] &&
      sortedBy id (dataRuns.filter (fun k => !badTargets.contains k))) = true := by decide +kernel
  simp only [Bool.and_eq_true, beq_iff_eq] at h
  exact ⟨lenIs_sound _ _ h.1.1, h.1.2, sortedBy_sound id _ h.2⟩

/-- complete list: a target's records are contiguous iff it is not one of the three `badTargets` -/
theorem data_target_contiguous_iff (key : List Char) :
    TargetContiguous dataRecs key ↔ key ∉ badTargets := by
  constructor
  · -- records 421–423, 457–459, 524–526
    have hg : (gapAt dataRecs t2014 421 && gapAt dataRecs t2015 457 && gapAt dataRecs t2017 524) = true := by
      decide +kernel
    simp only [Bool.and_eq_true] at hg
    intro h hk
    simp only [badTargets, List.mem_cons, List.not_mem_nil, or_false] at hk
    rcases hk with rfl | rfl | rfl
    · exact not_contiguous_of_gapAt hg.1.1 h
    · exact not_contiguous_of_gapAt hg.1.2 h
    · exact not_contiguous_of_gapAt hg.2 h
  · -- the runs of the other targets have distinct targets
    intro hk
    refine contiguous_of_count (fun r => r.drop 10) key dataRecs ?_
    show dataRuns.count key ≤ 1
    rw [← List.count_filter (p := fun k => !badTargets.contains k) (by simpa using hk)]
    exact List.nodup_iff_count.1 (data_runs.2.2.imp ne_of_cmpChars_lt) key

theorem data_target_not_contiguous : ¬ TargetContiguous dataRecs "20171001".toList :=
  fun h => (data_target_contiguous_iff _).1 h (by decide)

/-- what the OLD `GetHolidaysByTarget("2017-10-01")` saw on the table, in terms of the specification of
the old algorithm (`hol_backwardRunOld_spec` in Proofs.HolidaySpec: the maximal run of records with that
target ending at the last such record): 4 records (10-05 … 10-08) out of the 8 carrying the target -/
theorem data_byTarget_20171001 :
    lenIs (((dataRecs.reverse.dropWhile (fun r => !isSuffix "20171001".toList r)).takeWhile
        (fun r => isSuffix "20171001".toList r))) 4 = true ∧
    lenIs (dataRecs.filter (fun r => r.drop 10 == "20171001".toList)) 8 = true := by
  decide +kernel

/-- the aligned records the fixed `findHolidaysBackward` filters are exactly `dataRecs` -/
theorem data_aligned :
    alignedRecords (Gen.Tables.HolidayUtil.data.toList.length / recSize + 1) Gen.Tables.HolidayUtil.data.toList
      = dataRecs := by
  rw [data_flat]
  exact alignedRecords_flatten dataRecs data_wf _ (length_lt_fuel _ data_wf)

/-- the fixed `GetHolidaysByTarget("2017-10-01")` maps `buildHolidayForward` over all 8 records carrying
the target (the old one saw 4, `data_byTarget_20171001`) -/
theorem data_byTarget_20171001_fixed :
    lenIs ((alignedRecords (Gen.Tables.HolidayUtil.data.toList.length / recSize + 1)
      Gen.Tables.HolidayUtil.data.toList).filter (fun r => isSuffix "20171001".toList r)) 8 = true := by
  rw [data_aligned, List.filter_congr fun r hr => isSuffix8 _ r (by decide) (data_wf r hr)]
  exact data_byTarget_20171001.2

/-! ## two of the hypotheses of `fix_replace` / `fix_remove_present` (Proofs.HolidaySpec) on the table:
distinct names and work flags. That no target contains '-' follows from `data_digits`;
`hol_OccursOnlyAligned` is not established for the table. -/

/-- the nine names are pairwise distinct -/
theorem data_names_nodup : Gen.Tables.HolidayUtil.NAMES.Nodup := by decide

/-- every record's work flag is '0' or '1' -/
theorem data_workflag_ok : ∀ r ∈ dataRecs, r.getD 9 ' ' = '0' ∨ r.getD 9 ' ' = '1' :=
  fun r hr => (data_fields_ok r hr).2

#print axioms data_eq
#print axioms data_len
#print axioms data_digits
#print axioms data_flat
#print axioms data_wf
#print axioms data_names_ok
#print axioms data_buildable
#print axioms data_sorted
#print axioms data_days_unique
#print axioms data_target_not_contiguous
#print axioms data_runs
#print axioms data_target_contiguous_iff
#print axioms data_byTarget_20171001
#print axioms data_aligned
#print axioms data_byTarget_20171001_fixed
#print axioms data_names_nodup
#print axioms data_workflag_ok

end HolidayData
end Model
