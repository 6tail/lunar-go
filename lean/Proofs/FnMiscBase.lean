/-
Proofs.FnMiscBase — what the `Fn*` equivalence files for `Lunar`-based functions share: the model
`Lunar` carried by a generated one, its field getters, and the shape of a `NextDay` hypothesis.
-/
import Proofs.FnCivil1
import Model.Week
import Model.TaoFoto

namespace FnEq

/-- The fact (proved as `solarNextDay_eq` in `Proofs.FnCivil2`, under validity of the receiver and enough
fuel) that the generated `Solar.NextDay` agrees with the model on this call. -/
def mi_NextDayOk (fuel : Nat) (s : Gen.Fn.Solar) (n : Int) : Prop :=
  Gen.Fn.calendar_Solar_NextDay fuel s n =
    (match (toM s).nextDay n with | some r => .ok (ofM r) | none => .error .panic)

theorem mi_nextDay_valid {s r : Model.Solar} {n : Int} (h : s.nextDay n = some r) : r.valid = true := by
  unfold Model.Solar.nextDay Model.newSolar at h
  simp only at h
  split at h
  · rename_i hv; injection h with h; subst h; exact hv
  · cases h

/-- the model `Lunar` carried by a generated `Lunar` plus the (unmodelled) term table `jieQi` -/
def mi_lunarToM (l : Gen.Fn.Lunar) (terms : List Model.Solar) : Model.Lunar where
  year := l.year
  month := l.month
  day := l.day
  hour := l.hour
  minute := l.minute
  second := l.second
  yearGanIndex := l.yearGanIndex
  yearZhiIndex := l.yearZhiIndex
  yearGanIndexByLiChun := l.yearGanIndexByLiChun
  yearZhiIndexByLiChun := l.yearZhiIndexByLiChun
  yearGanIndexExact := l.yearGanIndexExact
  yearZhiIndexExact := l.yearZhiIndexExact
  monthGanIndex := l.monthGanIndex
  monthZhiIndex := l.monthZhiIndex
  monthGanIndexExact := l.monthGanIndexExact
  monthZhiIndexExact := l.monthZhiIndexExact
  dayGanIndex := l.dayGanIndex
  dayZhiIndex := l.dayZhiIndex
  dayGanIndexExact := l.dayGanIndexExact
  dayZhiIndexExact := l.dayZhiIndexExact
  dayGanIndexExact2 := l.dayGanIndexExact2
  dayZhiIndexExact2 := l.dayZhiIndexExact2
  timeGanIndex := l.timeGanIndex
  timeZhiIndex := l.timeZhiIndex
  weekIndex := l.weekIndex
  terms := terms
  solar := toM l.solar

theorem mi_lunarToM_terms (l : Gen.Fn.Lunar) (terms : List Model.Solar) :
    (mi_lunarToM l terms).terms = terms := rfl
theorem mi_lunarToM_solar (l : Gen.Fn.Lunar) (terms : List Model.Solar) :
    (mi_lunarToM l terms).solar = toM l.solar := rfl

@[simp] theorem mi_lunarGetYear_eq (l : Gen.Fn.Lunar) : Gen.Fn.calendar_Lunar_GetYear l = .ok l.year := rfl
@[simp] theorem mi_lunarGetDay_eq (l : Gen.Fn.Lunar) : Gen.Fn.calendar_Lunar_GetDay l = .ok l.day := rfl
@[simp] theorem mi_lunarGetSolar_eq (l : Gen.Fn.Lunar) : Gen.Fn.calendar_Lunar_GetSolar l = .ok l.solar := rfl
@[simp] theorem mi_lunarGetDayGanIndex_eq (l : Gen.Fn.Lunar) :
    Gen.Fn.calendar_Lunar_GetDayGanIndex l = .ok l.dayGanIndex := rfl

end FnEq
