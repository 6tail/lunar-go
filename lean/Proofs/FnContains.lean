/-
Proofs.FnContains — `calendar.contains`: the generated index loop = list membership.
-/
import Proofs.FnCivil1

namespace FnEq
open Gen.Fn

theorem mi_idx_drop (arr : List Int) (s : Nat) (x : Int) (l : List Int) (h : arr.drop s = x :: l) :
    Gen.Fn.idx arr (0 + 1 * (s : Int)) = .ok x := by
  unfold Gen.Fn.idx
  rw [Int.zero_add, Int.one_mul, if_neg (by omega), Int.toNat_natCast, ← List.head?_drop, h]
  rfl

/-- the loop from position `s` on, `l` being what is left of `arr` there -/
theorem mi_contains_loop (arr : List Int) (n : Int) (l : List Int) (s : Nat) (h : arr.drop s = l) :
    forIn (m := Except Gen.Fn.Err) (List.range' s l.length 1) ((none : Option Bool), PUnit.unit)
      (fun (k1 : Nat) (__s : Option Bool × PUnit) => do
        let t3 ← Gen.Fn.idx arr (0 + 1 * (k1 : Int))
        if decide (n = t3) = true then pure (ForInStep.done (some true, ()))
        else pure (ForInStep.yield (none, ()))) =
      Except.ok (if n ∈ l then (some true, PUnit.unit) else (none, PUnit.unit)) := by
  induction l generalizing s with
  | nil => simp
  | cons x l ih =>
    have hd : arr.drop (s + 1) = l := by rw [← List.drop_drop, h]; rfl
    simp only [List.length_cons, List.range'_succ, List.forIn_cons, mi_idx_drop arr s x l h, c1_ok_bind]
    by_cases hx : n = x
    · simp [hx]
    · simp only [hx, decide_false, Bool.false_eq_true, if_false]
      refine (ih (s + 1) hd).trans ?_
      simp [hx]

theorem contains_eq (arr : List Int) (n : Int) :
    Gen.Fn.calendar_contains arr n = .ok (decide (n ∈ arr)) := by
  simp only [Gen.Fn.calendar_contains, Std.Legacy.Range.forIn_eq_forIn_range']
  have hsz : Std.Legacy.Range.size [:(((arr.length : Int) - 0 + 0) / 1).toNat] = arr.length := by
    simp [Std.Legacy.Range.size]
  rw [hsz]
  have := mi_contains_loop arr n arr 0 rfl
  simp only [c1_pure] at this ⊢
  rw [this]
  by_cases h : n ∈ arr <;> simp [h]

theorem contains_eq' (arr : List Int) (n : Int) :
    Gen.Fn.calendar_contains arr n = .ok (arr.contains n) := by
  rw [contains_eq]; congr 1; simp

end FnEq
