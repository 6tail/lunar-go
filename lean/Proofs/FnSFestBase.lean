/-
Proofs.FnSFestBase — keys of the festival maps: the rendering `"%d-%d-…"` of a list of integers is injective on
lists of one length, so the model's integer-keyed `lookupI` is the Go map read on the rendered key. Used by
FnSLunarFest and FnSSolarFest; helpers carry the prefix `sf_`.
-/
import Proofs.FnSBase
import Model.CivilFest

namespace FnSEq
open Gen.Fn (Err)
open Gen.Tables

/-- `fmt.Sprintf("%d-%d-…-%d", l...)` -/
def sf_enc : List Int → String
  | [] => ""
  | a :: r => r.foldl (fun s x => s ++ "-" ++ Gen.FnS.fmtD x) (Gen.FnS.fmtD a)

/-- the characters of `%d` -/
def sf_intC (n : Int) : List Char :=
  if 0 ≤ n then Nat.toDigits 10 n.toNat else '-' :: Nat.toDigits 10 (-n).toNat

theorem sf_fmtD_toList (n : Int) : (Gen.FnS.fmtD n).toList = sf_intC n := by
  show (toString n).toList = _
  rw [Int.toString_eq_repr, Int.repr_eq_if]
  unfold sf_intC
  by_cases h : 0 ≤ n
  · simp [h]
  · simp [h, String.toList_append]

/-- the characters of `-%d-%d-…` -/
def sf_encC (l : List Int) : List Char := l.flatMap fun x => '-' :: sf_intC x

theorem sf_enc_toList (a : Int) (r : List Int) : '-' :: (sf_enc (a :: r)).toList = sf_encC (a :: r) := by
  have : ∀ (r : List Int) (s : String),
      (r.foldl (fun s x => s ++ "-" ++ Gen.FnS.fmtD x) s).toList = s.toList ++ sf_encC r := by
    intro r
    induction r with
    | nil => intro s; simp [sf_encC]
    | cons x r ih => intro s; rw [List.foldl_cons, ih]; simp [sf_encC, String.toList_append, sf_fmtD_toList]
  rw [sf_enc, this, sf_fmtD_toList]; rfl

theorem sf_span (x y r s : List Char) (hx : ∀ c ∈ x, c.isDigit = true) (hy : ∀ c ∈ y, c.isDigit = true)
    (hr : ∀ c ∈ r.head?, c.isDigit = false) (hs : ∀ c ∈ s.head?, c.isDigit = false)
    (h : x ++ r = y ++ s) : x = y ∧ r = s := by
  -- one of `x`, `y` extends the other by some `a`, whose first character would be a digit and not a digit
  rcases List.append_eq_append_iff.1 h with ⟨a, rfl, rfl⟩ | ⟨a, rfl, rfl⟩
  · cases a with
    | nil => simp
    | cons c a => exact absurd (hy c (by simp)) (by rw [hr c (by simp)]; decide)
  · cases a with
    | nil => simp
    | cons c a => exact absurd (hx c (by simp)) (by rw [hs c (by simp)]; decide)

theorem sf_digits_isDigit (n : Nat) : ∀ c ∈ Nat.toDigits 10 n, c.isDigit = true :=
  fun _ hc => Nat.isDigit_of_mem_toDigits (by decide) (by decide) hc

theorem sf_toDigits_inj (a b : Nat) (h : Nat.toDigits 10 a = Nat.toDigits 10 b) : a = b := by
  simpa only [Nat.ofDigitChars_ten_toDigits] using congrArg (fun l => Nat.ofDigitChars 10 l 0) h

theorem sf_intC_sign (a c : Int) (r s : List Char) (ha : 0 ≤ a) (hc : ¬ 0 ≤ c) : sf_intC a ++ r ≠ sf_intC c ++ s := by
  unfold sf_intC
  rw [if_pos ha, if_neg hc]
  cases hd : Nat.toDigits 10 a.toNat with
  | nil => exact absurd hd Nat.toDigits_ne_nil
  | cons x t =>
    intro h
    have hx := sf_digits_isDigit a.toNat x (by simp [hd])
    rw [(List.cons.inj h).1] at hx
    exact absurd hx (by decide)

theorem sf_intC_inj (a c : Int) (r s : List Char)
    (hr : ∀ x ∈ r.head?, x.isDigit = false) (hs : ∀ x ∈ s.head?, x.isDigit = false)
    (h : sf_intC a ++ r = sf_intC c ++ s) : a = c ∧ r = s := by
  by_cases ha : 0 ≤ a <;> by_cases hc : 0 ≤ c
  · rw [sf_intC, sf_intC, if_pos ha, if_pos hc] at h
    have := sf_span _ _ r s (sf_digits_isDigit _) (sf_digits_isDigit _) hr hs h
    exact ⟨by have := sf_toDigits_inj _ _ this.1; omega, this.2⟩
  · exact absurd h (sf_intC_sign a c r s ha hc)
  · exact absurd h.symm (sf_intC_sign c a s r hc ha)
  · rw [sf_intC, sf_intC, if_neg ha, if_neg hc, List.cons_append, List.cons_append, List.cons.injEq] at h
    have := sf_span _ _ r s (sf_digits_isDigit _) (sf_digits_isDigit _) hr hs h.2
    exact ⟨by have := sf_toDigits_inj _ _ this.1; omega, this.2⟩

theorem sf_encC_head (l : List Int) : ∀ x ∈ (sf_encC l).head?, x.isDigit = false := by
  cases l <;> simp [sf_encC]

theorem sf_encC_inj : ∀ (l l' : List Int), l.length = l'.length → sf_encC l = sf_encC l' → l = l'
  | [], [], _, _ => rfl
  | [], _ :: _, hl, _ => nomatch hl
  | _ :: _, [], hl, _ => nomatch hl
  | x :: r, x' :: r', hl, h => by
    simp only [sf_encC, List.flatMap_cons, List.cons_append, List.cons.injEq, true_and] at h
    obtain ⟨rfl, ht⟩ := sf_intC_inj x x' _ _ (sf_encC_head r) (sf_encC_head r') h
    rw [sf_encC_inj r r' (by simpa using hl) ht]

theorem sf_enc_inj (l l' : List Int) (hl : l.length = l'.length) (h : sf_enc l = sf_enc l') : l = l' := by
  match l, l', hl with
  | [], [], _ => rfl
  | a :: r, a' :: r', hl => exact sf_encC_inj _ _ hl (by rw [← sf_enc_toList, ← sf_enc_toList, h])

/-- `enc` need only keep the query `k` apart from the other keys of the table -/
theorem sf_lookupI_eq {α : Type} (enc : List Int → String) (k : List Int) (keys : List (List Int))
    (T : List (String × α)) (hk : T.map Prod.fst = keys.map enc) (hinj : ∀ a ∈ keys, enc a = enc k → a = k) :
    Model.lookupI keys T k = Model.lookupS T (enc k) := by
  induction keys generalizing T with
  | nil => cases T with
    | nil => rfl
    | cons => simp at hk
  | cons a ks ih =>
    cases T with
    | nil => simp at hk
    | cons t ts =>
      simp only [List.map_cons, List.cons.injEq] at hk
      have ih' := ih ts hk.2 fun a ha => hinj a (List.mem_cons_of_mem _ ha)
      unfold Model.lookupI Model.lookupS at ih' ⊢
      simp only [List.zip_cons_cons, List.find?_cons, hk.1]
      by_cases hak : a = k
      · simp [hak]
      · have h1 : (a == k) = false := by simpa using hak
        have h2 : (enc a == enc k) = false := by simpa using fun e => hak (hinj a (List.mem_cons_self ..) e)
        simp only [h1, h2]
        exact ih'
theorem sf_lookupI_enc {α : Type} (keys : List (List Int)) (T : List (String × α))
    (hk : T.map Prod.fst = keys.map sf_enc) (k : List Int)
    (hlen : keys.all (fun a => a.length == k.length) = true) :
    Model.lookupI keys T k = Model.lookupS T (sf_enc k) :=
  sf_lookupI_eq sf_enc k keys T hk fun a ha he =>
    sf_enc_inj a k (by simpa using List.all_eq_true.mp hlen a ha) he

/-- `v, ok := M[k]; if ok { l = append(l, v) }` as a list, in the model's terms -/
theorem sf_optList (T : List (String × String)) (k : String) :
    (if Gen.FnS.mhas T k = true then [Gen.FnS.mlookupS T k] else [])
      = (match Model.lookupS T k with | some f => [f] | none => []) := by
  rw [mhas_eq, mlookupS_eq_lookupStr]
  unfold Model.lookupStr
  cases Model.lookupS T k <;> rfl

theorem sf_lookupS_mem {α : Type} (T : List (String × α)) (k : String) (v : α) (h : Model.lookupS T k = some v) :
    ∃ p ∈ T, p.2 = v := by
  unfold Model.lookupS at h
  cases hf : T.find? (fun p => p.1 == k) with
  | none => simp [hf] at h
  | some p =>
    simp only [hf, Option.some.injEq] at h
    exact ⟨p, List.mem_of_find?_eq_some hf, h⟩

end FnSEq
