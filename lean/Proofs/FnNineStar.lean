/-
Proofs.FnNineStar — the generated nine-star functions (year, month, day, hour stars of `Lunar`, the stars
of `LunarYear` and `LunarTime`) = `Model.NineStar`.  The generated `Lunar` has no term table (`jieQi` is a
Go map), so the model `Lunar` is `ns_lunarToM lunar terms` for an arbitrary table `terms`, and the atoms
that read `lunar.jieQi[...]` are bound to `Model.termByName terms ...`.
-/
import Proofs.FnMiscBase

namespace FnEq
open Model

/-- the model `Lunar` carried by a generated `Lunar` plus the (unmodelled) term table `jieQi`;
definitionally `mi_lunarToM` -/
def ns_lunarToM (l : Gen.Fn.Lunar) (terms : List Model.Solar) : Model.Lunar where
  year := l.year
  month := l.month
  day := l.day
  hour := l.hour
  minute := l.minute
  second := l.second
  yearGanIndex := l.yearGanIndex
  yearZhiIndex := l.yearZhiIndex
  yearGanIndexByLiChun := l.yearGanIndexByLiChun
  yearZhiIndexByLiChun := l.yearZhiIndexByLiChun
  yearGanIndexExact := l.yearGanIndexExact
  yearZhiIndexExact := l.yearZhiIndexExact
  monthGanIndex := l.monthGanIndex
  monthZhiIndex := l.monthZhiIndex
  monthGanIndexExact := l.monthGanIndexExact
  monthZhiIndexExact := l.monthZhiIndexExact
  dayGanIndex := l.dayGanIndex
  dayZhiIndex := l.dayZhiIndex
  dayGanIndexExact := l.dayGanIndexExact
  dayZhiIndexExact := l.dayZhiIndexExact
  dayGanIndexExact2 := l.dayGanIndexExact2
  dayZhiIndexExact2 := l.dayZhiIndexExact2
  timeGanIndex := l.timeGanIndex
  timeZhiIndex := l.timeZhiIndex
  weekIndex := l.weekIndex
  terms := terms
  solar := toM l.solar

/-- meaning of an atom `a = strings.Compare(x, y)`: the code only ever tests `a < 0` or `a ≥ 0`, so
only "`x` sorts before `y`" matters. -/
def ns_CmpIs (a : Int) (x y : List Char) : Prop := a < 0 ↔ Model.strLt x y = true

theorem ns_strGe_eq (x y : List Char) : Model.strGe x y = !Model.strLt x y := by
  unfold Model.strGe Model.strLt
  cases Model.cmpChars x y <;> rfl

theorem ns_cmp_lt {a : Int} {x y : List Char} (h : ns_CmpIs a x y) :
    decide (a < 0) = Model.strLt x y := by
  unfold ns_CmpIs at h
  cases hs : Model.strLt x y <;> simp_all

theorem ns_cmp_ge {a : Int} {x y : List Char} (h : ns_CmpIs a x y) :
    decide (a ≥ 0) = Model.strGe x y := by
  rw [ns_strGe_eq, ← ns_cmp_lt h]
  by_cases h0 : a < 0 <;> simp [h0] <;> omega

/-- a concrete `strings.Compare` satisfying `ns_CmpIs` (so the hypotheses below are satisfiable) -/
def ns_cmpInt (x y : List Char) : Int :=
  match Model.cmpChars x y with | .lt => -1 | .eq => 0 | .gt => 1

theorem ns_cmpInt_is (x y : List Char) : ns_CmpIs (ns_cmpInt x y) x y := by
  unfold ns_CmpIs ns_cmpInt Model.strLt
  cases Model.cmpChars x y <;> decide

theorem newNineStar_eq (i : Int) : Gen.Fn.calendar_NewNineStar i = .ok ⟨i⟩ := rfl

theorem ns_ite_zero (o : Int) :
    (if decide (0 = o) = true then (Except.ok ⟨9 - 1⟩ : Except Gen.Fn.Err Gen.Fn.NineStar) else .ok ⟨o - 1⟩) =
      .ok ⟨(if o = 0 then 9 else o) - 1⟩ := by
  by_cases h : o = 0
  · subst h; rfl
  · have h' : ¬ (0 = o) := fun e => h e.symm
    simp [h, h']

/-- `LunarYear.GetNineStar`, unguarded form. Atom `a1` = `LunarUtil.GetJiaZiIndex(lunarYear.GetGanZhi())`: the
60-cycle index of the year's own pillar `GAN[ganIndex+1] + ZHI[zhiIndex+1]`. -/
theorem lunarYear_getNineStar_raw (a1 : Int) (ly : Gen.Fn.LunarYear)
    (ha1 : a1 = Model.ganZhiIndex ly.ganIndex ly.zhiIndex) :
    Gen.Fn.calendar_LunarYear_GetNineStar a1 ly =
      .ok ⟨(let index := Model.ganZhiIndex ly.ganIndex ly.zhiIndex + 1
            let yuan := (Int.tdiv (ly.year + 2696) 60).tmod 3
            let offset := (62 + yuan * 3 - index).tmod 9
            (if offset = 0 then 9 else offset) - 1)⟩ := by
  subst ha1
  unfold Gen.Fn.calendar_LunarYear_GetNineStar
  simp only [newNineStar_eq]
  exact ns_ite_zero _

/-- `LunarYear.GetNineStar` ↔ `Model.lunarYearNineStar`. Guards `hg`, `hz`: the invariant established by
`NewLunarYear` (`ganIndex`, `zhiIndex` are the Euclidean remainders of `year - 4`); the model function takes
only the year and recomputes them. -/
theorem lunarYear_getNineStar_eq (a1 : Int) (ly : Gen.Fn.LunarYear)
    (hg : ly.ganIndex = (ly.year - 4) % 10) (hz : ly.zhiIndex = (ly.year - 4) % 12)
    (ha1 : a1 = Model.ganZhiIndex ly.ganIndex ly.zhiIndex) :
    Gen.Fn.calendar_LunarYear_GetNineStar a1 ly = .ok ⟨Model.lunarYearNineStar ly.year⟩ := by
  rw [lunarYear_getNineStar_raw a1 ly ha1, hg, hz]
  rfl

/-- `Lunar.getYearNineStar(yearInGanZhi)` ↔ `Model.Lunar.yearNineStarOf`, the string argument being the pillar
`GAN[g+1] + ZHI[z+1]`. Atoms: `a1` = `GetJiaZiIndex(yearInGanZhi)`, `a2` = `GetJiaZiIndex(lunar.GetYearInGanZhi())`.
No guard. -/
theorem getYearNineStar_eq (a1 a2 : Int) (lunar : Gen.Fn.Lunar) (terms : List Model.Solar) (g z : Int)
    (ha1 : a1 = Model.ganZhiIndex g z)
    (ha2 : a2 = Model.ganZhiIndex lunar.yearGanIndex lunar.yearZhiIndex) :
    Gen.Fn.calendar_Lunar_getYearNineStar a1 a2 lunar =
      .ok ⟨(ns_lunarToM lunar terms).yearNineStarOf g z⟩ := by
  subst ha1 ha2
  unfold Gen.Fn.calendar_Lunar_getYearNineStar Model.Lunar.yearNineStarOf
  simp only [newNineStar_eq, ns_lunarToM, ns_ite_zero]
  by_cases h1 : Model.ganZhiIndex g z + 1 - (Model.ganZhiIndex lunar.yearGanIndex lunar.yearZhiIndex + 1) > 1
  · simp only [h1, decide_true, if_true]
  · by_cases h2 : Model.ganZhiIndex g z + 1 - (Model.ganZhiIndex lunar.yearGanIndex lunar.yearZhiIndex + 1) < -1
    · simp only [h1, h2, decide_true, decide_false, if_true, if_false, Bool.false_eq_true]
    · simp only [h1, h2, decide_false, if_false, Bool.false_eq_true]

/-- `Lunar.getMonthNineStar` ↔ `Model.monthNineStarOf` (no atoms, no guard; `lunar` is unused by the Go code). -/
theorem getMonthNineStar_eq (lunar : Gen.Fn.Lunar) (yearZhi monthZhi : Int) :
    Gen.Fn.calendar_Lunar_getMonthNineStar lunar yearZhi monthZhi =
      .ok ⟨Model.monthNineStarOf yearZhi monthZhi⟩ := by
  unfold Gen.Fn.calendar_Lunar_getMonthNineStar Model.monthNineStarOf
  simp only [newNineStar_eq]
  by_cases h : monthZhi < 2 <;>
    simp [h, Gen.Tables.LunarUtil.«BASE_MONTH_ZHI_INDEX»]

/-- `Lunar.GetMonthNineStarBySect` ↔ `Model.Lunar.monthNineStar` (no atoms, no guard). -/
theorem getMonthNineStarBySect_eq (lunar : Gen.Fn.Lunar) (terms : List Model.Solar) (sect : Int) :
    Gen.Fn.calendar_Lunar_GetMonthNineStarBySect lunar sect =
      .ok ⟨(ns_lunarToM lunar terms).monthNineStar sect⟩ := by
  unfold Gen.Fn.calendar_Lunar_GetMonthNineStarBySect Model.Lunar.monthNineStar
  simp only [getMonthNineStar_eq, ns_lunarToM]
  by_cases h1 : sect = 1
  · subst h1; rfl
  · by_cases h3 : sect = 3
    · subst h3; rfl
    · simp [h1, h3]

/-- the day shift to the anchor 甲子 day: `if i > 29 { 60 - i } else { -i }` -/
def ns_shift (i : Int) : Int := if i > 29 then 60 - i else -i

/-- the model's `anchor` of `Lunar.dayNineStar` -/
def ns_anchor (t : Model.Solar) : Option Model.Solar := t.nextDay (ns_shift (Model.dayJiaZiOf t))

/-- the call `solar.NextDay(n)` with this fuel agrees with the model: the conclusion of `solarNextDay_eq`
(which needs `(toM s).valid` and enough fuel for `n`); the same proposition as `mi_NextDayOk` -/
def ns_NextDayOk (fuel : Nat) (s : Gen.Fn.Solar) (n : Int) : Prop :=
  Gen.Fn.calendar_Solar_NextDay fuel s n =
    (match (toM s).nextDay n with | some r => .ok (ofM r) | none => .error .panic)

/-- the call `s.Subtract(o)` agrees with the model: the conclusion of `solarSubtract_eq_of_valid` -/
def ns_SubtractOk (s o : Gen.Fn.Solar) : Prop :=
  Gen.Fn.calendar_Solar_Subtract s o =
    (match (toM s).subtract (toM o) with | some d => .ok d | none => .error .panic)

/-- `if i > 29 { NextDay(60 - i) } else { NextDay(-i) }`, with any continuation, is one call with `ns_shift i` -/
theorem ns_shift_call {β : Type} (fuel : Nat) (a : Gen.Fn.Solar) (i : Int) (k : Gen.Fn.Solar → Except Gen.Fn.Err β) :
    (if decide (i > 29) = true then Gen.Fn.calendar_Solar_NextDay fuel a (60 - i) >>= k
      else Gen.Fn.calendar_Solar_NextDay fuel a (-i) >>= k) =
      Gen.Fn.calendar_Solar_NextDay fuel a (ns_shift i) >>= k := by
  simp only [decide_eq_true_eq]
  exact (apply_ite (fun n => Gen.Fn.calendar_Solar_NextDay fuel a n >>= k) ..).symm

theorem ns_anchor_eq (t : Model.Solar) :
    (if dayJiaZiOf t > 29 then t.nextDay (60 - dayJiaZiOf t) else t.nextDay (-dayJiaZiOf t)) = ns_anchor t :=
  (apply_ite t.nextDay ..).symm

theorem ns_map_ok (f : Int → Int) (o : Option Int) :
    ((match o with | some d => Except.ok d | none => Except.error Gen.Fn.Err.panic) >>= fun t =>
        (.ok ⟨f t⟩ : Except Gen.Fn.Err Gen.Fn.NineStar)) =
      (match o.map f with | some i => .ok ⟨i⟩ | none => .error .panic) := by
  cases o <;> rfl

/-- `Lunar.GetDayNineStar` ↔ `Model.Lunar.dayNineStar` (`none` = panic), for every term table `terms`.
Atoms:
* `a1 a2 a3` = `lunar.jieQi["冬至"]`, `["DONG_ZHI"]`, `["夏至"]` (`h1 h2 h3`);
* `a4 a5 a6` = `GetJiaZiIndex(x.GetLunar().GetDayInGanZhi())` of those three = `Model.dayJiaZiOf` (`h4 h5 h6`);
* `a7 … a12` = `strings.Compare(solarYmd, anchorYmd)` where the anchor is the result of the `NextDay` call
  (`ns_anchor`, only constrained when that call succeeds): `a7 a12` against the 冬至 anchor, `a8 a9` against
  the 夏至 anchor, `a10 a11` against the DONG_ZHI anchor.
Callee hypotheses (to be discharged by `solarNextDay_eq` / `solarSubtract_eq_of_valid`): the three `NextDay` calls actually made
(`hn1 hn2 hn3`) and `Subtract` between `lunar.solar` and any valid date (`hs`; the anchors are valid because
`NextDay` ends in `NewSolar`). No other guard. -/
theorem getDayNineStar_eq (fuel : Nat) (lunar : Gen.Fn.Lunar) (terms : List Model.Solar)
    (a1 a2 a3 : Gen.Fn.Solar) (a4 a5 a6 a7 a8 a9 a10 a11 a12 : Int)
    (h1 : toM a1 = termByName terms "冬至") (h2 : toM a2 = termByName terms "DONG_ZHI")
    (h3 : toM a3 = termByName terms "夏至")
    (h4 : a4 = dayJiaZiOf (toM a1)) (h5 : a5 = dayJiaZiOf (toM a2)) (h6 : a6 = dayJiaZiOf (toM a3))
    (hn1 : ns_NextDayOk fuel a1 (ns_shift a4)) (hn2 : ns_NextDayOk fuel a2 (ns_shift a5))
    (hn3 : ns_NextDayOk fuel a3 (ns_shift a6))
    (hs : ∀ o : Gen.Fn.Solar, (toM o).valid = true → ns_SubtractOk lunar.solar o ∧ ns_SubtractOk o lunar.solar)
    (h7 : ∀ r, ns_anchor (toM a1) = some r → ns_CmpIs a7 (toM lunar.solar).toYmd r.toYmd)
    (h8 : ∀ r, ns_anchor (toM a3) = some r → ns_CmpIs a8 (toM lunar.solar).toYmd r.toYmd)
    (h9 : ∀ r, ns_anchor (toM a3) = some r → ns_CmpIs a9 (toM lunar.solar).toYmd r.toYmd)
    (h10 : ∀ r, ns_anchor (toM a2) = some r → ns_CmpIs a10 (toM lunar.solar).toYmd r.toYmd)
    (h11 : ∀ r, ns_anchor (toM a2) = some r → ns_CmpIs a11 (toM lunar.solar).toYmd r.toYmd)
    (h12 : ∀ r, ns_anchor (toM a1) = some r → ns_CmpIs a12 (toM lunar.solar).toYmd r.toYmd) :
    Gen.Fn.calendar_Lunar_GetDayNineStar fuel a1 a2 a3 a4 a5 a6 a7 a8 a9 a10 a11 a12 lunar =
      (match (ns_lunarToM lunar terms).dayNineStar with
       | some i => .ok ⟨i⟩ | none => .error .panic) := by
  unfold Gen.Fn.calendar_Lunar_GetDayNineStar Model.Lunar.dayNineStar
  simp only [ns_shift_call, ns_anchor_eq]
  unfold ns_NextDayOk at hn1 hn2 hn3
  rw [hn1, hn2, hn3, show (ns_lunarToM lunar terms).terms = terms from rfl,
    show (ns_lunarToM lunar terms).solar = toM lunar.solar from rfl, ← h1, ← h2, ← h3]
  subst h4 h5 h6
  unfold ns_anchor at *
  rcases e1 : (toM a1).nextDay _ with _ | r1
  · rfl
  rcases e2 : (toM a2).nextDay _ with _ | r2
  · rfl
  rcases e3 : (toM a3).nextDay _ with _ | r3
  · rfl
  obtain ⟨s1, s1'⟩ := hs (ofM r1) (mi_nextDay_valid e1)
  have s2 := (hs (ofM r2) (mi_nextDay_valid e2)).1
  have s3 := (hs (ofM r3) (mi_nextDay_valid e3)).1
  unfold ns_SubtractOk at s1 s1' s2 s3
  -- with calls and comparisons replaced by the model's values the two sides are the same `if` chain,
  -- once the model's result wrapper is pushed into its branches (`apply_ite`)
  simp only [c1_ok_bind, s1, s1', s2, s3, toM_ofM, ns_cmp_ge (h7 r1 e1), ns_cmp_lt (h8 r3 e3), ns_cmp_ge (h9 r3 e3),
    ns_cmp_lt (h10 r2 e2), ns_cmp_ge (h11 r2 e2), ns_cmp_lt (h12 r1 e1), newNineStar_eq, ns_map_ok,
    apply_ite (fun o : Option Int => (match o with
      | some i => Except.ok ⟨i⟩ | none => Except.error Gen.Fn.Err.panic : Except Gen.Fn.Err Gen.Fn.NineStar))]

/-- `Lunar.GetTimeNineStar` ↔ `Model.Lunar.timeNineStar`. Atoms `a1 a2 a3` = `strings.Compare(solarYmd, t.ToYmd())`
for `t` = `jieQi["冬至"]`, `["夏至"]`, `["DONG_ZHI"]`; `a4 a5` = `strings.Contains(group, dayZhi)`. No guard. -/
theorem getTimeNineStar_eq (a1 a2 a3 : Int) (a4 a5 : Bool) (lunar : Gen.Fn.Lunar) (terms : List Model.Solar)
    (h1 : ns_CmpIs a1 (toM lunar.solar).toYmd (termByName terms "冬至").toYmd)
    (h2 : ns_CmpIs a2 (toM lunar.solar).toYmd (termByName terms "夏至").toYmd)
    (h3 : ns_CmpIs a3 (toM lunar.solar).toYmd (termByName terms "DONG_ZHI").toYmd)
    (h4 : a4 = Model.zhiInGroup "子午卯酉" (Model.zhiStr lunar.dayZhiIndex))
    (h5 : a5 = Model.zhiInGroup "辰戌丑未" (Model.zhiStr lunar.dayZhiIndex)) :
    Gen.Fn.calendar_Lunar_GetTimeNineStar a1 a2 a3 a4 a5 lunar =
      .ok ⟨(ns_lunarToM lunar terms).timeNineStar⟩ := by
  unfold Gen.Fn.calendar_Lunar_GetTimeNineStar Model.Lunar.timeNineStar
  simp only [ns_lunarToM, ← ns_cmp_ge h1, ← ns_cmp_lt h2, ← ns_cmp_ge h3, ← h4, ← h5]
  -- both sides are the same function of four Booleans and the hour branch
  cases decide (a1 ≥ 0) && decide (a2 < 0) <;> cases decide (a3 ≥ 0) <;> cases a4 <;> cases a5 <;> rfl

theorem ns_idx_gt {a : Int} {b : Bool} (h : a > -1 ↔ b = true) : decide (a > -1) = b := by
  cases b <;> simp_all

/-- the code folds `index` into 0..8 by two successive tests, the model by two nested `if`s -/
theorem ns_wrap (i : Int) :
    (if decide (i > 8) = true then
        (if decide (i - 9 < 0) = true then (Except.ok ⟨i - 9 + 9⟩ : Except Gen.Fn.Err Gen.Fn.NineStar) else .ok ⟨i - 9⟩)
      else if decide (i < 0) = true then .ok ⟨i + 9⟩ else .ok ⟨i⟩) =
      .ok ⟨(if (if i > 8 then i - 9 else i) < 0 then (if i > 8 then i - 9 else i) + 9 else (if i > 8 then i - 9 else i))⟩ := by
  by_cases h8 : i > 8
  · by_cases h0 : i - 9 < 0 <;> simp [h8, h0]
  · by_cases h0 : i < 0 <;> simp [h8, h0]

/-- `LunarTime.GetNineStar` ↔ `Model.Lunar.timeNineStarViaLunarTime` on the hour object's `lunar`. Atoms as for
`GetTimeNineStar`, except `a4 a5` = `strings.Index(group, dayZhi)` (tested `> -1`). Guard `hz`: the hour object
was built from the same moment (`NewLunarTime` computes `zhiIndex` exactly as `computeTime` does). -/
theorem lunarTime_getNineStar_eq (a1 a2 a3 a4 a5 : Int) (lt : Gen.Fn.LunarTime) (terms : List Model.Solar)
    (hz : lt.zhiIndex = lt.lunar.timeZhiIndex)
    (h1 : ns_CmpIs a1 (toM lt.lunar.solar).toYmd (termByName terms "冬至").toYmd)
    (h2 : ns_CmpIs a2 (toM lt.lunar.solar).toYmd (termByName terms "夏至").toYmd)
    (h3 : ns_CmpIs a3 (toM lt.lunar.solar).toYmd (termByName terms "DONG_ZHI").toYmd)
    (h4 : a4 > -1 ↔ Model.zhiInGroup "子午卯酉" (Model.zhiStr lt.lunar.dayZhiIndex) = true)
    (h5 : a5 > -1 ↔ Model.zhiInGroup "辰戌丑未" (Model.zhiStr lt.lunar.dayZhiIndex) = true) :
    Gen.Fn.calendar_LunarTime_GetNineStar a1 a2 a3 a4 a5 lt =
      .ok ⟨(ns_lunarToM lt.lunar terms).timeNineStarViaLunarTime⟩ := by
  unfold Gen.Fn.calendar_LunarTime_GetNineStar
  rw [hz]
  -- only the model side is simplified: `simp` on the generated body would inline every join point
  conv => rhs; simp only [Model.Lunar.timeNineStarViaLunarTime, ns_lunarToM, ← ns_cmp_ge h1, ← ns_cmp_lt h2,
    ← ns_cmp_ge h3, ← ns_idx_gt h4, ← ns_idx_gt h5]
  cases decide (a1 ≥ 0) && decide (a2 < 0) <;> cases decide (a3 ≥ 0) <;> cases decide (a4 > -1) <;>
    cases decide (a5 > -1) <;> apply ns_wrap

/-! ## Satisfiability of the compare atoms: the day theorem with `strings.Compare` instantiated -/

def ns_cmpOpt (x : List Char) (o : Option Model.Solar) : Int :=
  match o with | some r => ns_cmpInt x r.toYmd | none => 0

theorem ns_cmpOpt_is (x : List Char) (o : Option Model.Solar) :
    ∀ r, o = some r → ns_CmpIs (ns_cmpOpt x o) x r.toYmd := by
  intro r h; subst h; exact ns_cmpInt_is _ _

theorem getDayNineStar_eq_cmp (fuel : Nat) (lunar : Gen.Fn.Lunar) (terms : List Model.Solar)
    (a1 a2 a3 : Gen.Fn.Solar)
    (h1 : toM a1 = termByName terms "冬至") (h2 : toM a2 = termByName terms "DONG_ZHI")
    (h3 : toM a3 = termByName terms "夏至")
    (hn1 : ns_NextDayOk fuel a1 (ns_shift (dayJiaZiOf (toM a1))))
    (hn2 : ns_NextDayOk fuel a2 (ns_shift (dayJiaZiOf (toM a2))))
    (hn3 : ns_NextDayOk fuel a3 (ns_shift (dayJiaZiOf (toM a3))))
    (hs : ∀ o : Gen.Fn.Solar, (toM o).valid = true → ns_SubtractOk lunar.solar o ∧ ns_SubtractOk o lunar.solar) :
    let ymd := (toM lunar.solar).toYmd
    let c1 := ns_cmpOpt ymd (ns_anchor (toM a1))
    let c2 := ns_cmpOpt ymd (ns_anchor (toM a2))
    let c3 := ns_cmpOpt ymd (ns_anchor (toM a3))
    Gen.Fn.calendar_Lunar_GetDayNineStar fuel a1 a2 a3
        (dayJiaZiOf (toM a1)) (dayJiaZiOf (toM a2)) (dayJiaZiOf (toM a3)) c1 c3 c3 c2 c2 c1 lunar =
      (match (ns_lunarToM lunar terms).dayNineStar with
       | some i => .ok ⟨i⟩ | none => .error .panic) := by
  intro ymd c1 c2 c3
  exact getDayNineStar_eq fuel lunar terms a1 a2 a3 _ _ _ _ _ _ _ _ _ h1 h2 h3 rfl rfl rfl hn1 hn2 hn3 hs
    (ns_cmpOpt_is _ _) (ns_cmpOpt_is _ _) (ns_cmpOpt_is _ _) (ns_cmpOpt_is _ _) (ns_cmpOpt_is _ _)
    (ns_cmpOpt_is _ _)

section Axioms
#print axioms newNineStar_eq
#print axioms lunarYear_getNineStar_raw
#print axioms lunarYear_getNineStar_eq
#print axioms getYearNineStar_eq
#print axioms getMonthNineStar_eq
#print axioms getMonthNineStarBySect_eq
#print axioms getDayNineStar_eq
#print axioms getDayNineStar_eq_cmp
#print axioms getTimeNineStar_eq
#print axioms lunarTime_getNineStar_eq
end Axioms

end FnEq
