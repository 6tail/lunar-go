/-
Proofs.FnSolarMonth — SolarMonth constructor / getters / Next: generated code = model.
-/
import Proofs.FnCivil1
import Model.Week
import Model.EightChar

namespace FnEq

@[simp] theorem newSolarMonthFromYm_eq (y m : Int) :
    Gen.Fn.calendar_NewSolarMonthFromYm y m = .ok ⟨y, m⟩ := rfl
@[simp] theorem solarMonthGetYear_eq (sm : Gen.Fn.SolarMonth) :
    Gen.Fn.calendar_SolarMonth_GetYear sm = .ok sm.year := rfl
@[simp] theorem solarMonthGetMonth_eq (sm : Gen.Fn.SolarMonth) :
    Gen.Fn.calendar_SolarMonth_GetMonth sm = .ok sm.month := rfl

/-- The month normalisation, as Go's `if … else if …` and as the model's nested `if` on pairs. -/
theorem sm_norm (y m : Int) :
    (if decide (m > 12) = true then (Except.ok ⟨y + 1, m - 12⟩ : Except Gen.Fn.Err Gen.Fn.SolarMonth)
      else if decide (m < 1) = true then .ok ⟨y - 1, m + 12⟩ else .ok ⟨y, m⟩) =
    .ok ⟨(if m > 12 then (y + 1, m - 12) else if m < 1 then (y - 1, m + 12) else (y, m)).1,
      (if m > 12 then (y + 1, m - 12) else if m < 1 then (y - 1, m + 12) else (y, m)).2⟩ := by
  by_cases c1 : m > 12
  · simp only [c1, decide_true, if_true]
  · by_cases c2 : m < 1 <;>
      simp only [c1, c2, decide_true, decide_false, if_true, if_false, Bool.false_eq_true]

/-- Go's `/`, `%` are applied to `|months|`, where they agree with the model's. -/
theorem solarMonthNext_eq (sm : Gen.Fn.SolarMonth) (months : Int) :
    Gen.Fn.calendar_SolarMonth_Next sm months =
      .ok ⟨(Model.nextYm sm.year sm.month months).1, (Model.nextYm sm.year sm.month months).2⟩ := by
  unfold Gen.Fn.calendar_SolarMonth_Next Model.nextYm
  by_cases h : months < 0
  · have h0 : (0 : Int) ≤ -months := by omega
    simp only [h, decide_true, if_true, Int.tdiv_eq_ediv_of_nonneg h0,
      Int.tmod_eq_emod_of_nonneg h0, newSolarMonthFromYm_eq]
    exact sm_norm _ _
  · have h0 : (0 : Int) ≤ months := by omega
    simp only [h, decide_false, Bool.false_eq_true, if_false, Int.tdiv_eq_ediv_of_nonneg h0,
      Int.tmod_eq_emod_of_nonneg h0, newSolarMonthFromYm_eq]
    exact sm_norm _ _

end FnEq
