/-
Proofs.FnSRoutes — "two routes to the same quantity agree", stated DIRECTLY between generated functions of
the string-mode translation (`Gen.FnS`), no hand model involved:

  1. the hour's attributes read from the hour object (`calendar_LunarTime_GetX lt`) equal those read from the
     lunar date (`calendar_Lunar_GetTimeX l`) whenever `lt` is the hour object of `l`
     (`lt.ganIndex = l.timeGanIndex`, `lt.zhiIndex = l.timeZhiIndex`, `lt.lunar = l` — what `NewLunarTime`
     establishes; `NewLunarTime` / `Lunar.GetTime` are not in `Gen/FnS.lean`, so the relation is a hypothesis);
  2. the eight-character object's pillars (and the attributes derived from them) equal the lunar date's;
  3. the deprecated / convenience aliases equal their targets.

All statements are guard-free: both sides fail (panic) on exactly the same inputs.  An alias is `rfl`: the
elaborator reduces `do let t ← x; return t` to `x`.  The hour relation and its lemma carry the prefix `sr_`.
-/
import Proofs.FnS1
import Proofs.FnSDecoders

namespace FnSEq
open Gen.Fn (Err)

/-- the relation between an hour object and the lunar date it was built from (established by Go's `NewLunarTime`) -/
structure sr_HourOf (lt : Gen.FnS.LunarTime) (l : Gen.FnS.Lunar) : Prop where
  gan : lt.ganIndex = l.timeGanIndex
  zhi : lt.zhiIndex = l.timeZhiIndex
  lunar : lt.lunar = l

/-- An hour object has no other fields, so the hour object of `l` is this triple; on it every `LunarTime` accessor
unfolds to the code of the corresponding `Lunar.GetTime…` accessor, which is why the routes of section 1 agree by `rfl`. -/
theorem sr_HourOf.eq {lt : Gen.FnS.LunarTime} {l : Gen.FnS.Lunar} (h : sr_HourOf lt l) :
    lt = ⟨l.timeGanIndex, l.timeZhiIndex, l⟩ := by
  rw [← h.gan, ← h.zhi, ← h.lunar]

section hour
variable {lt : Gen.FnS.LunarTime} {l : Gen.FnS.Lunar}

theorem lunarTimeGetGanIndex_eq_lunarGetTimeGanIndex (h : sr_HourOf lt l) :
    Gen.FnS.calendar_LunarTime_GetGanIndex lt = Gen.FnS.calendar_Lunar_GetTimeGanIndex l :=
  h.eq ▸ rfl

theorem lunarTimeGetZhiIndex_eq_lunarGetTimeZhiIndex (h : sr_HourOf lt l) :
    Gen.FnS.calendar_LunarTime_GetZhiIndex lt = Gen.FnS.calendar_Lunar_GetTimeZhiIndex l :=
  h.eq ▸ rfl

theorem lunarTimeGetGan_eq_lunarGetTimeGan (h : sr_HourOf lt l) :
    Gen.FnS.calendar_LunarTime_GetGan lt = Gen.FnS.calendar_Lunar_GetTimeGan l :=
  h.eq ▸ rfl

theorem lunarTimeGetZhi_eq_lunarGetTimeZhi (h : sr_HourOf lt l) :
    Gen.FnS.calendar_LunarTime_GetZhi lt = Gen.FnS.calendar_Lunar_GetTimeZhi l :=
  h.eq ▸ rfl

theorem lunarTimeGetGanZhi_eq_lunarGetTimeInGanZhi (h : sr_HourOf lt l) :
    Gen.FnS.calendar_LunarTime_GetGanZhi lt = Gen.FnS.calendar_Lunar_GetTimeInGanZhi l :=
  h.eq ▸ rfl

theorem lunarTimeToString_eq_lunarGetTimeInGanZhi (h : sr_HourOf lt l) :
    Gen.FnS.calendar_LunarTime_ToString lt = Gen.FnS.calendar_Lunar_GetTimeInGanZhi l :=
  h.eq ▸ rfl

theorem lunarTimeString_eq_lunarGetTimeInGanZhi (h : sr_HourOf lt l) :
    Gen.FnS.calendar_LunarTime_String lt = Gen.FnS.calendar_Lunar_GetTimeInGanZhi l :=
  h.eq ▸ rfl

theorem lunarTimeGetShengXiao_eq_lunarGetTimeShengXiao (h : sr_HourOf lt l) :
    Gen.FnS.calendar_LunarTime_GetShengXiao lt = Gen.FnS.calendar_Lunar_GetTimeShengXiao l :=
  h.eq ▸ rfl

theorem lunarTimeGetPositionXi_eq_lunarGetTimePositionXi (h : sr_HourOf lt l) :
    Gen.FnS.calendar_LunarTime_GetPositionXi lt = Gen.FnS.calendar_Lunar_GetTimePositionXi l :=
  h.eq ▸ rfl

theorem lunarTimeGetPositionXiDesc_eq_lunarGetTimePositionXiDesc (h : sr_HourOf lt l) :
    Gen.FnS.calendar_LunarTime_GetPositionXiDesc lt = Gen.FnS.calendar_Lunar_GetTimePositionXiDesc l :=
  h.eq ▸ rfl

theorem lunarTimeGetPositionYangGui_eq_lunarGetTimePositionYangGui (h : sr_HourOf lt l) :
    Gen.FnS.calendar_LunarTime_GetPositionYangGui lt = Gen.FnS.calendar_Lunar_GetTimePositionYangGui l :=
  h.eq ▸ rfl

theorem lunarTimeGetPositionYangGuiDesc_eq_lunarGetTimePositionYangGuiDesc (h : sr_HourOf lt l) :
    Gen.FnS.calendar_LunarTime_GetPositionYangGuiDesc lt = Gen.FnS.calendar_Lunar_GetTimePositionYangGuiDesc l :=
  h.eq ▸ rfl

theorem lunarTimeGetPositionYinGui_eq_lunarGetTimePositionYinGui (h : sr_HourOf lt l) :
    Gen.FnS.calendar_LunarTime_GetPositionYinGui lt = Gen.FnS.calendar_Lunar_GetTimePositionYinGui l :=
  h.eq ▸ rfl

theorem lunarTimeGetPositionYinGuiDesc_eq_lunarGetTimePositionYinGuiDesc (h : sr_HourOf lt l) :
    Gen.FnS.calendar_LunarTime_GetPositionYinGuiDesc lt = Gen.FnS.calendar_Lunar_GetTimePositionYinGuiDesc l :=
  h.eq ▸ rfl

/-- the hour object's `GetPositionFuBySect` at the default sect 2 reads the table `POSITION_FU_2`, as `Lunar.GetTimePositionFu` does -/
theorem lunarTimeGetPositionFu_eq_lunarGetTimePositionFu (h : sr_HourOf lt l) :
    Gen.FnS.calendar_LunarTime_GetPositionFu lt = Gen.FnS.calendar_Lunar_GetTimePositionFu l :=
  h.eq ▸ rfl

theorem lunarTimeGetPositionFuDesc_eq_lunarGetTimePositionFuDesc (h : sr_HourOf lt l) :
    Gen.FnS.calendar_LunarTime_GetPositionFuDesc lt = Gen.FnS.calendar_Lunar_GetTimePositionFuDesc l :=
  h.eq ▸ rfl

theorem lunarTimeGetPositionCai_eq_lunarGetTimePositionCai (h : sr_HourOf lt l) :
    Gen.FnS.calendar_LunarTime_GetPositionCai lt = Gen.FnS.calendar_Lunar_GetTimePositionCai l :=
  h.eq ▸ rfl

theorem lunarTimeGetPositionCaiDesc_eq_lunarGetTimePositionCaiDesc (h : sr_HourOf lt l) :
    Gen.FnS.calendar_LunarTime_GetPositionCaiDesc lt = Gen.FnS.calendar_Lunar_GetTimePositionCaiDesc l :=
  h.eq ▸ rfl

theorem lunarTimeGetNaYin_eq_lunarGetTimeNaYin (h : sr_HourOf lt l) :
    Gen.FnS.calendar_LunarTime_GetNaYin lt = Gen.FnS.calendar_Lunar_GetTimeNaYin l :=
  h.eq ▸ rfl

theorem lunarTimeGetTianShen_eq_lunarGetTimeTianShen (h : sr_HourOf lt l) :
    Gen.FnS.calendar_LunarTime_GetTianShen lt = Gen.FnS.calendar_Lunar_GetTimeTianShen l :=
  h.eq ▸ rfl

theorem lunarTimeGetTianShenType_eq_lunarGetTimeTianShenType (h : sr_HourOf lt l) :
    Gen.FnS.calendar_LunarTime_GetTianShenType lt = Gen.FnS.calendar_Lunar_GetTimeTianShenType l :=
  h.eq ▸ rfl

theorem lunarTimeGetTianShenLuck_eq_lunarGetTimeTianShenLuck (h : sr_HourOf lt l) :
    Gen.FnS.calendar_LunarTime_GetTianShenLuck lt = Gen.FnS.calendar_Lunar_GetTimeTianShenLuck l :=
  h.eq ▸ rfl

theorem lunarTimeGetChong_eq_lunarGetTimeChong (h : sr_HourOf lt l) :
    Gen.FnS.calendar_LunarTime_GetChong lt = Gen.FnS.calendar_Lunar_GetTimeChong l :=
  h.eq ▸ rfl

theorem lunarTimeGetSha_eq_lunarGetTimeSha (h : sr_HourOf lt l) :
    Gen.FnS.calendar_LunarTime_GetSha lt = Gen.FnS.calendar_Lunar_GetTimeSha l :=
  h.eq ▸ rfl

theorem lunarTimeGetChongGan_eq_lunarGetTimeChongGan (h : sr_HourOf lt l) :
    Gen.FnS.calendar_LunarTime_GetChongGan lt = Gen.FnS.calendar_Lunar_GetTimeChongGan l :=
  h.eq ▸ rfl

theorem lunarTimeGetChongGanTie_eq_lunarGetTimeChongGanTie (h : sr_HourOf lt l) :
    Gen.FnS.calendar_LunarTime_GetChongGanTie lt = Gen.FnS.calendar_Lunar_GetTimeChongGanTie l :=
  h.eq ▸ rfl

/-- both functions run the same search loop over `ZHI` on the same clash string -/
theorem lunarTimeGetChongShengXiao_eq_lunarGetTimeChongShengXiao (h : sr_HourOf lt l) :
    Gen.FnS.calendar_LunarTime_GetChongShengXiao lt = Gen.FnS.calendar_Lunar_GetTimeChongShengXiao l :=
  h.eq ▸ rfl

theorem lunarTimeGetChongDesc_eq_lunarGetTimeChongDesc (h : sr_HourOf lt l) :
    Gen.FnS.calendar_LunarTime_GetChongDesc lt = Gen.FnS.calendar_Lunar_GetTimeChongDesc l :=
  h.eq ▸ rfl

theorem lunarTimeGetXun_eq_lunarGetTimeXun (h : sr_HourOf lt l) :
    Gen.FnS.calendar_LunarTime_GetXun lt = Gen.FnS.calendar_Lunar_GetTimeXun l :=
  h.eq ▸ rfl

theorem lunarTimeGetXunKong_eq_lunarGetTimeXunKong (h : sr_HourOf lt l) :
    Gen.FnS.calendar_LunarTime_GetXunKong lt = Gen.FnS.calendar_Lunar_GetTimeXunKong l :=
  h.eq ▸ rfl

/-- `lunarTimeGetYi_eq_lunarGetTimeYi` (FnSDecoders) in the `sr_HourOf` form -/
theorem lunarTimeGetYi_eq_lunarGetTimeYi' (h : sr_HourOf lt l) :
    Gen.FnS.calendar_LunarTime_GetYi lt = Gen.FnS.calendar_Lunar_GetTimeYi l :=
  h.eq ▸ rfl

/-- `lunarTimeGetJi_eq_lunarGetTimeJi` (FnSDecoders) in the `sr_HourOf` form -/
theorem lunarTimeGetJi_eq_lunarGetTimeJi' (h : sr_HourOf lt l) :
    Gen.FnS.calendar_LunarTime_GetJi lt = Gen.FnS.calendar_Lunar_GetTimeJi l :=
  h.eq ▸ rfl

end hour

section eightChar
variable (e : Gen.FnS.EightChar)

/-- the constructor stores the lunar date and selects sect 2 -/
theorem newEightChar_eq (l : Gen.FnS.Lunar) :
    Gen.FnS.calendar_NewEightChar l = .ok { sect := 2, lunar := l } := rfl

theorem eightCharGetYear_eq_lunarGetYearInGanZhiExact :
    Gen.FnS.calendar_EightChar_GetYear e = Gen.FnS.calendar_Lunar_GetYearInGanZhiExact e.lunar := rfl

theorem eightCharGetYearGan_eq_lunarGetYearGanExact :
    Gen.FnS.calendar_EightChar_GetYearGan e = Gen.FnS.calendar_Lunar_GetYearGanExact e.lunar := rfl

theorem eightCharGetYearZhi_eq_lunarGetYearZhiExact :
    Gen.FnS.calendar_EightChar_GetYearZhi e = Gen.FnS.calendar_Lunar_GetYearZhiExact e.lunar := rfl

theorem eightCharGetYearXun_eq_lunarGetYearXunExact :
    Gen.FnS.calendar_EightChar_GetYearXun e = Gen.FnS.calendar_Lunar_GetYearXunExact e.lunar := rfl

theorem eightCharGetYearXunKong_eq_lunarGetYearXunKongExact :
    Gen.FnS.calendar_EightChar_GetYearXunKong e = Gen.FnS.calendar_Lunar_GetYearXunKongExact e.lunar := rfl

/-- `Lunar` has no `GetYearNaYinExact`: the object's year sound is the `NAYIN` entry of the lunar date's EXACT year pillar -/
theorem eightCharGetYearNaYin_route :
    Gen.FnS.calendar_EightChar_GetYearNaYin e
      = (Gen.FnS.calendar_Lunar_GetYearInGanZhiExact e.lunar >>= fun p =>
          pure (Gen.FnS.mlookupS Gen.Tables.LunarUtil.«NAYIN» p)) := rfl

/-- it is `Lunar.GetYearNaYin` (which reads the lunar-new-year-based pillar) exactly when the exact (Lichun-instant) year
indices coincide with the lunar-year ones -/
theorem eightCharGetYearNaYin_eq_lunarGetYearNaYin
    (hg : e.lunar.yearGanIndexExact = e.lunar.yearGanIndex) (hz : e.lunar.yearZhiIndexExact = e.lunar.yearZhiIndex) :
    Gen.FnS.calendar_EightChar_GetYearNaYin e = Gen.FnS.calendar_Lunar_GetYearNaYin e.lunar := by
  rw [eightCharGetYearNaYin_route, sd_yearInGanZhiExact, hg, hz, ← sd_yearInGanZhi]; rfl

/-- `Lunar` has no `GetYearWuXing`: the object's year elements are the `WU_XING_GAN` / `WU_XING_ZHI` entries of the lunar
date's exact year stem and branch -/
theorem eightCharGetYearWuXing_route :
    Gen.FnS.calendar_EightChar_GetYearWuXing e
      = (Gen.FnS.calendar_Lunar_GetYearGanExact e.lunar >>= fun g =>
         Gen.FnS.calendar_Lunar_GetYearZhiExact e.lunar >>= fun z =>
          pure (Gen.FnS.mlookupS Gen.Tables.LunarUtil.«WU_XING_GAN» g ++ Gen.FnS.mlookupS Gen.Tables.LunarUtil.«WU_XING_ZHI» z)) := rfl

theorem eightCharGetMonth_eq_lunarGetMonthInGanZhiExact :
    Gen.FnS.calendar_EightChar_GetMonth e = Gen.FnS.calendar_Lunar_GetMonthInGanZhiExact e.lunar := rfl

theorem eightCharGetMonthGan_eq_lunarGetMonthGanExact :
    Gen.FnS.calendar_EightChar_GetMonthGan e = Gen.FnS.calendar_Lunar_GetMonthGanExact e.lunar := rfl

theorem eightCharGetMonthZhi_eq_lunarGetMonthZhiExact :
    Gen.FnS.calendar_EightChar_GetMonthZhi e = Gen.FnS.calendar_Lunar_GetMonthZhiExact e.lunar := rfl

theorem eightCharGetMonthXun_eq_lunarGetMonthXunExact :
    Gen.FnS.calendar_EightChar_GetMonthXun e = Gen.FnS.calendar_Lunar_GetMonthXunExact e.lunar := rfl

theorem eightCharGetMonthXunKong_eq_lunarGetMonthXunKongExact :
    Gen.FnS.calendar_EightChar_GetMonthXunKong e = Gen.FnS.calendar_Lunar_GetMonthXunKongExact e.lunar := rfl

theorem eightCharGetMonthNaYin_route :
    Gen.FnS.calendar_EightChar_GetMonthNaYin e
      = (Gen.FnS.calendar_Lunar_GetMonthInGanZhiExact e.lunar >>= fun p =>
          pure (Gen.FnS.mlookupS Gen.Tables.LunarUtil.«NAYIN» p)) := rfl

theorem eightCharGetDay_route :
    Gen.FnS.calendar_EightChar_GetDay e
      = if e.sect = 2 then Gen.FnS.calendar_Lunar_GetDayInGanZhiExact2 e.lunar
        else Gen.FnS.calendar_Lunar_GetDayInGanZhiExact e.lunar := by
  simp only [Gen.FnS.calendar_EightChar_GetDay, decide_eq_true_eq]

theorem eightCharGetDayGan_route :
    Gen.FnS.calendar_EightChar_GetDayGan e
      = if e.sect = 2 then Gen.FnS.calendar_Lunar_GetDayGanExact2 e.lunar
        else Gen.FnS.calendar_Lunar_GetDayGanExact e.lunar := by
  simp only [Gen.FnS.calendar_EightChar_GetDayGan, decide_eq_true_eq]

theorem eightCharGetDayZhi_route :
    Gen.FnS.calendar_EightChar_GetDayZhi e
      = if e.sect = 2 then Gen.FnS.calendar_Lunar_GetDayZhiExact2 e.lunar
        else Gen.FnS.calendar_Lunar_GetDayZhiExact e.lunar := by
  simp only [Gen.FnS.calendar_EightChar_GetDayZhi, decide_eq_true_eq]

/-- for the object returned by the constructor (sect 2) the day pillar is the lunar date's `GetDayInGanZhiExact2` -/
theorem eightCharGetDay_of_new (l : Gen.FnS.Lunar) :
    (Gen.FnS.calendar_NewEightChar l >>= Gen.FnS.calendar_EightChar_GetDay)
      = Gen.FnS.calendar_Lunar_GetDayInGanZhiExact2 l := by
  rw [newEightChar_eq, sb_bind_ok, eightCharGetDay_route, if_pos rfl]

theorem eightCharGetTime_eq_lunarGetTimeInGanZhi :
    Gen.FnS.calendar_EightChar_GetTime e = Gen.FnS.calendar_Lunar_GetTimeInGanZhi e.lunar := rfl

theorem eightCharGetTimeGan_eq_lunarGetTimeGan :
    Gen.FnS.calendar_EightChar_GetTimeGan e = Gen.FnS.calendar_Lunar_GetTimeGan e.lunar := rfl

theorem eightCharGetTimeZhi_eq_lunarGetTimeZhi :
    Gen.FnS.calendar_EightChar_GetTimeZhi e = Gen.FnS.calendar_Lunar_GetTimeZhi e.lunar := rfl

theorem eightCharGetTimeXun_eq_lunarGetTimeXun :
    Gen.FnS.calendar_EightChar_GetTimeXun e = Gen.FnS.calendar_Lunar_GetTimeXun e.lunar := rfl

theorem eightCharGetTimeXunKong_eq_lunarGetTimeXunKong :
    Gen.FnS.calendar_EightChar_GetTimeXunKong e = Gen.FnS.calendar_Lunar_GetTimeXunKong e.lunar := rfl

theorem eightCharGetTimeNaYin_eq_lunarGetTimeNaYin :
    Gen.FnS.calendar_EightChar_GetTimeNaYin e = Gen.FnS.calendar_Lunar_GetTimeNaYin e.lunar := rfl

/-- three routes: the eight-character object, the lunar date and the hour object give the same hour pillar -/
theorem eightCharGetTime_eq_lunarTimeGetGanZhi {lt : Gen.FnS.LunarTime} (h : sr_HourOf lt e.lunar) :
    Gen.FnS.calendar_EightChar_GetTime e = Gen.FnS.calendar_LunarTime_GetGanZhi lt :=
  h.eq ▸ rfl

end eightChar

section aliases
variable (l : Gen.FnS.Lunar)

theorem lunarGetGan_eq_lunarGetYearGan :
    Gen.FnS.calendar_Lunar_GetGan l = Gen.FnS.calendar_Lunar_GetYearGan l := lunarGetGan_fwd l
theorem lunarGetZhi_eq_lunarGetYearZhi :
    Gen.FnS.calendar_Lunar_GetZhi l = Gen.FnS.calendar_Lunar_GetYearZhi l := lunarGetZhi_fwd l
theorem lunarGetShengxiao_eq_lunarGetYearShengXiao :
    Gen.FnS.calendar_Lunar_GetShengxiao l = Gen.FnS.calendar_Lunar_GetYearShengXiao l := lunarGetShengxiao_fwd l
theorem lunarGetChong_eq_lunarGetDayChong :
    Gen.FnS.calendar_Lunar_GetChong l = Gen.FnS.calendar_Lunar_GetDayChong l := lunarGetChong_fwd l
theorem lunarGetChongGan_eq_lunarGetDayChongGan :
    Gen.FnS.calendar_Lunar_GetChongGan l = Gen.FnS.calendar_Lunar_GetDayChongGan l := lunarGetChongGan_fwd l
theorem lunarGetChongGanTie_eq_lunarGetDayChongGanTie :
    Gen.FnS.calendar_Lunar_GetChongGanTie l = Gen.FnS.calendar_Lunar_GetDayChongGanTie l := lunarGetChongGanTie_fwd l
theorem lunarGetChongShengXiao_eq_lunarGetDayChongShengXiao :
    Gen.FnS.calendar_Lunar_GetChongShengXiao l = Gen.FnS.calendar_Lunar_GetDayChongShengXiao l := lunarGetChongShengXiao_fwd l
theorem lunarGetChongDesc_eq_lunarGetDayChongDesc :
    Gen.FnS.calendar_Lunar_GetChongDesc l = Gen.FnS.calendar_Lunar_GetDayChongDesc l := lunarGetChongDesc_fwd l
theorem lunarGetSha_eq_lunarGetDaySha :
    Gen.FnS.calendar_Lunar_GetSha l = Gen.FnS.calendar_Lunar_GetDaySha l := lunarGetSha_fwd l
theorem lunarGetPositionXi_eq_lunarGetDayPositionXi :
    Gen.FnS.calendar_Lunar_GetPositionXi l = Gen.FnS.calendar_Lunar_GetDayPositionXi l := lunarGetPositionXi_fwd l
theorem lunarGetPositionXiDesc_eq_lunarGetDayPositionXiDesc :
    Gen.FnS.calendar_Lunar_GetPositionXiDesc l = Gen.FnS.calendar_Lunar_GetDayPositionXiDesc l := lunarGetPositionXiDesc_fwd l
theorem lunarGetPositionYangGui_eq_lunarGetDayPositionYangGui :
    Gen.FnS.calendar_Lunar_GetPositionYangGui l = Gen.FnS.calendar_Lunar_GetDayPositionYangGui l := lunarGetPositionYangGui_fwd l
theorem lunarGetPositionYangGuiDesc_eq_lunarGetDayPositionYangGuiDesc :
    Gen.FnS.calendar_Lunar_GetPositionYangGuiDesc l = Gen.FnS.calendar_Lunar_GetDayPositionYangGuiDesc l := lunarGetPositionYangGuiDesc_fwd l
theorem lunarGetPositionYinGui_eq_lunarGetDayPositionYinGui :
    Gen.FnS.calendar_Lunar_GetPositionYinGui l = Gen.FnS.calendar_Lunar_GetDayPositionYinGui l := lunarGetPositionYinGui_fwd l
theorem lunarGetPositionYinGuiDesc_eq_lunarGetDayPositionYinGuiDesc :
    Gen.FnS.calendar_Lunar_GetPositionYinGuiDesc l = Gen.FnS.calendar_Lunar_GetDayPositionYinGuiDesc l := lunarGetPositionYinGuiDesc_fwd l
theorem lunarGetPositionFu_eq_lunarGetDayPositionFu :
    Gen.FnS.calendar_Lunar_GetPositionFu l = Gen.FnS.calendar_Lunar_GetDayPositionFu l := lunarGetPositionFu_fwd l
theorem lunarGetPositionFuDesc_eq_lunarGetDayPositionFuDesc :
    Gen.FnS.calendar_Lunar_GetPositionFuDesc l = Gen.FnS.calendar_Lunar_GetDayPositionFuDesc l := lunarGetPositionFuDesc_fwd l
theorem lunarGetPositionCai_eq_lunarGetDayPositionCai :
    Gen.FnS.calendar_Lunar_GetPositionCai l = Gen.FnS.calendar_Lunar_GetDayPositionCai l := lunarGetPositionCai_fwd l
theorem lunarGetPositionCaiDesc_eq_lunarGetDayPositionCaiDesc :
    Gen.FnS.calendar_Lunar_GetPositionCaiDesc l = Gen.FnS.calendar_Lunar_GetDayPositionCaiDesc l := lunarGetPositionCaiDesc_fwd l

/-- the default-sect forms are the `…BySect … 2` forms -/
theorem lunarGetDayPositionFu_eq_bySect2 :
    Gen.FnS.calendar_Lunar_GetDayPositionFu l = Gen.FnS.calendar_Lunar_GetDayPositionFuBySect l 2 := rfl
theorem lunarGetDayPositionFuDesc_eq_bySect2 :
    Gen.FnS.calendar_Lunar_GetDayPositionFuDesc l = Gen.FnS.calendar_Lunar_GetDayPositionFuDescBySect l 2 := rfl
theorem lunarGetYearNineStar_eq_bySect2 :
    Gen.FnS.calendar_Lunar_GetYearNineStar l = Gen.FnS.calendar_Lunar_GetYearNineStarBySect l 2 := rfl
theorem lunarGetMonthNineStar_eq_bySect2 :
    Gen.FnS.calendar_Lunar_GetMonthNineStar l = Gen.FnS.calendar_Lunar_GetMonthNineStarBySect l 2 := rfl
theorem lunarGetYearPositionTaiSui_eq_bySect2 :
    Gen.FnS.calendar_Lunar_GetYearPositionTaiSui l = Gen.FnS.calendar_Lunar_GetYearPositionTaiSuiBySect l 2 := rfl
theorem lunarGetMonthPositionTaiSui_eq_bySect2 :
    Gen.FnS.calendar_Lunar_GetMonthPositionTaiSui l = Gen.FnS.calendar_Lunar_GetMonthPositionTaiSuiBySect l 2 := rfl
theorem lunarGetDayPositionTaiSui_eq_bySect2 :
    Gen.FnS.calendar_Lunar_GetDayPositionTaiSui l = Gen.FnS.calendar_Lunar_GetDayPositionTaiSuiBySect l 2 := rfl

theorem solarGetXingzuo_eq_solarGetXingZuo (s : Gen.FnS.Solar) :
    Gen.FnS.calendar_Solar_GetXingzuo s = Gen.FnS.calendar_Solar_GetXingZuo s := rfl

end aliases

end FnSEq

section axioms
#print axioms FnSEq.lunarTimeGetGanIndex_eq_lunarGetTimeGanIndex
#print axioms FnSEq.lunarTimeGetZhiIndex_eq_lunarGetTimeZhiIndex
#print axioms FnSEq.lunarTimeGetGan_eq_lunarGetTimeGan
#print axioms FnSEq.lunarTimeGetZhi_eq_lunarGetTimeZhi
#print axioms FnSEq.lunarTimeGetGanZhi_eq_lunarGetTimeInGanZhi
#print axioms FnSEq.lunarTimeToString_eq_lunarGetTimeInGanZhi
#print axioms FnSEq.lunarTimeString_eq_lunarGetTimeInGanZhi
#print axioms FnSEq.lunarTimeGetShengXiao_eq_lunarGetTimeShengXiao
#print axioms FnSEq.lunarTimeGetPositionXi_eq_lunarGetTimePositionXi
#print axioms FnSEq.lunarTimeGetPositionXiDesc_eq_lunarGetTimePositionXiDesc
#print axioms FnSEq.lunarTimeGetPositionYangGui_eq_lunarGetTimePositionYangGui
#print axioms FnSEq.lunarTimeGetPositionYangGuiDesc_eq_lunarGetTimePositionYangGuiDesc
#print axioms FnSEq.lunarTimeGetPositionYinGui_eq_lunarGetTimePositionYinGui
#print axioms FnSEq.lunarTimeGetPositionYinGuiDesc_eq_lunarGetTimePositionYinGuiDesc
#print axioms FnSEq.lunarTimeGetPositionFu_eq_lunarGetTimePositionFu
#print axioms FnSEq.lunarTimeGetPositionFuDesc_eq_lunarGetTimePositionFuDesc
#print axioms FnSEq.lunarTimeGetPositionCai_eq_lunarGetTimePositionCai
#print axioms FnSEq.lunarTimeGetPositionCaiDesc_eq_lunarGetTimePositionCaiDesc
#print axioms FnSEq.lunarTimeGetNaYin_eq_lunarGetTimeNaYin
#print axioms FnSEq.lunarTimeGetTianShen_eq_lunarGetTimeTianShen
#print axioms FnSEq.lunarTimeGetTianShenType_eq_lunarGetTimeTianShenType
#print axioms FnSEq.lunarTimeGetTianShenLuck_eq_lunarGetTimeTianShenLuck
#print axioms FnSEq.lunarTimeGetChong_eq_lunarGetTimeChong
#print axioms FnSEq.lunarTimeGetSha_eq_lunarGetTimeSha
#print axioms FnSEq.lunarTimeGetChongGan_eq_lunarGetTimeChongGan
#print axioms FnSEq.lunarTimeGetChongGanTie_eq_lunarGetTimeChongGanTie
#print axioms FnSEq.lunarTimeGetChongShengXiao_eq_lunarGetTimeChongShengXiao
#print axioms FnSEq.lunarTimeGetChongDesc_eq_lunarGetTimeChongDesc
#print axioms FnSEq.lunarTimeGetXun_eq_lunarGetTimeXun
#print axioms FnSEq.lunarTimeGetXunKong_eq_lunarGetTimeXunKong
#print axioms FnSEq.lunarTimeGetYi_eq_lunarGetTimeYi'
#print axioms FnSEq.lunarTimeGetJi_eq_lunarGetTimeJi'
#print axioms FnSEq.newEightChar_eq
#print axioms FnSEq.eightCharGetYear_eq_lunarGetYearInGanZhiExact
#print axioms FnSEq.eightCharGetYearGan_eq_lunarGetYearGanExact
#print axioms FnSEq.eightCharGetYearZhi_eq_lunarGetYearZhiExact
#print axioms FnSEq.eightCharGetYearXun_eq_lunarGetYearXunExact
#print axioms FnSEq.eightCharGetYearXunKong_eq_lunarGetYearXunKongExact
#print axioms FnSEq.eightCharGetYearNaYin_route
#print axioms FnSEq.eightCharGetYearNaYin_eq_lunarGetYearNaYin
#print axioms FnSEq.eightCharGetYearWuXing_route
#print axioms FnSEq.eightCharGetMonth_eq_lunarGetMonthInGanZhiExact
#print axioms FnSEq.eightCharGetMonthGan_eq_lunarGetMonthGanExact
#print axioms FnSEq.eightCharGetMonthZhi_eq_lunarGetMonthZhiExact
#print axioms FnSEq.eightCharGetMonthXun_eq_lunarGetMonthXunExact
#print axioms FnSEq.eightCharGetMonthXunKong_eq_lunarGetMonthXunKongExact
#print axioms FnSEq.eightCharGetMonthNaYin_route
#print axioms FnSEq.eightCharGetDay_route
#print axioms FnSEq.eightCharGetDayGan_route
#print axioms FnSEq.eightCharGetDayZhi_route
#print axioms FnSEq.eightCharGetDay_of_new
#print axioms FnSEq.eightCharGetTime_eq_lunarGetTimeInGanZhi
#print axioms FnSEq.eightCharGetTimeGan_eq_lunarGetTimeGan
#print axioms FnSEq.eightCharGetTimeZhi_eq_lunarGetTimeZhi
#print axioms FnSEq.eightCharGetTimeXun_eq_lunarGetTimeXun
#print axioms FnSEq.eightCharGetTimeXunKong_eq_lunarGetTimeXunKong
#print axioms FnSEq.eightCharGetTimeNaYin_eq_lunarGetTimeNaYin
#print axioms FnSEq.eightCharGetTime_eq_lunarTimeGetGanZhi
#print axioms FnSEq.lunarGetGan_eq_lunarGetYearGan
#print axioms FnSEq.lunarGetZhi_eq_lunarGetYearZhi
#print axioms FnSEq.lunarGetShengxiao_eq_lunarGetYearShengXiao
#print axioms FnSEq.lunarGetChong_eq_lunarGetDayChong
#print axioms FnSEq.lunarGetChongGan_eq_lunarGetDayChongGan
#print axioms FnSEq.lunarGetChongGanTie_eq_lunarGetDayChongGanTie
#print axioms FnSEq.lunarGetChongShengXiao_eq_lunarGetDayChongShengXiao
#print axioms FnSEq.lunarGetChongDesc_eq_lunarGetDayChongDesc
#print axioms FnSEq.lunarGetSha_eq_lunarGetDaySha
#print axioms FnSEq.lunarGetPositionXi_eq_lunarGetDayPositionXi
#print axioms FnSEq.lunarGetPositionXiDesc_eq_lunarGetDayPositionXiDesc
#print axioms FnSEq.lunarGetPositionYangGui_eq_lunarGetDayPositionYangGui
#print axioms FnSEq.lunarGetPositionYangGuiDesc_eq_lunarGetDayPositionYangGuiDesc
#print axioms FnSEq.lunarGetPositionYinGui_eq_lunarGetDayPositionYinGui
#print axioms FnSEq.lunarGetPositionYinGuiDesc_eq_lunarGetDayPositionYinGuiDesc
#print axioms FnSEq.lunarGetPositionFu_eq_lunarGetDayPositionFu
#print axioms FnSEq.lunarGetPositionFuDesc_eq_lunarGetDayPositionFuDesc
#print axioms FnSEq.lunarGetPositionCai_eq_lunarGetDayPositionCai
#print axioms FnSEq.lunarGetPositionCaiDesc_eq_lunarGetDayPositionCaiDesc
#print axioms FnSEq.lunarGetDayPositionFu_eq_bySect2
#print axioms FnSEq.lunarGetDayPositionFuDesc_eq_bySect2
#print axioms FnSEq.lunarGetYearNineStar_eq_bySect2
#print axioms FnSEq.lunarGetMonthNineStar_eq_bySect2
#print axioms FnSEq.lunarGetYearPositionTaiSui_eq_bySect2
#print axioms FnSEq.lunarGetMonthPositionTaiSui_eq_bySect2
#print axioms FnSEq.lunarGetDayPositionTaiSui_eq_bySect2
#print axioms FnSEq.solarGetXingzuo_eq_solarGetXingZuo
end axioms
