/-
Proofs.FnE2EPillars — end-to-end corollaries on the GENERATED compute sequence: the five steps bundled with their atoms
(`ComputeAtoms`, `ComputeAtomsOk`, `computeSteps_eq`), then hour branch, day pillar from the day number, five-rats rule,
60-cycle step, validity and year pillars of its result. The helpers `e2e_computeAll_*` read fields of `Model.computeAll`.
-/
import Proofs.FnPillars
import Proofs.FnE2ECivil

namespace FnE2E

open FnEq

/-- the atoms (untranslated sub-expressions) of the five generated steps
`computeYear … computeWeek`, in the order of `FnEq.compute_steps_eq` -/
structure ComputeAtoms where
  y1 : Gen.Fn.Solar
  y2 : Gen.Fn.Solar
  y3 : Int
  y4 : Int
  y5 : Int
  y6 : Int
  m1 : Int → Gen.Fn.Solar
  m2 : Int → Bool
  m3 : Int → Int
  m4 : Int → Int
  m5 : Int → Gen.Fn.Solar
  m6 : Int → Bool
  m7 : Int → Int
  m8 : Int → Int
  d1 : Int
  d2 : Int
  d3 : Int
  t1 : Int
  w1 : Int

/-- Go's `compute` after `computeJieQi`: the five generated steps in sequence. -/
def computeSteps (A : ComputeAtoms) (l : Gen.Fn.Lunar) : Except Gen.Fn.Err Gen.Fn.Lunar := do
  let l1 ← Gen.Fn.calendar_computeYear A.y1 A.y2 A.y3 A.y4 A.y5 A.y6 l
  let l2 ← Gen.Fn.calendar_computeMonth A.m1 A.m2 A.m3 A.m4 A.m5 A.m6 A.m7 A.m8 l1
  let l3 ← Gen.Fn.calendar_computeDay A.d1 A.d2 A.d3 l2
  let l4 ← Gen.Fn.calendar_computeTime A.t1 l3
  Gen.Fn.calendar_computeWeek A.w1 l4

/-- every atom means what its Go source text says, on the input struct `l` and the term table
`ya.terms` (exactly the hypotheses of `FnEq.compute_steps_eq`) -/
structure ComputeAtomsOk (ya : Model.YearAstro) (A : ComputeAtoms) (l : Gen.Fn.Lunar) : Prop where
  hv : Model.validYmd l.solar.year l.solar.month l.solar.day = true
  h0 : 11 ≤ Model.jdn l.solar.year l.solar.month l.solar.day
  hy1 : pl_toM A.y1 = Model.termByName ya.terms "立春"
  hy2 : pl_toM A.y2 = Model.termByName ya.terms "LI_CHUN"
  hy3 : pl_CmpSpec A.y3 (pl_toM l.solar).toYmd (pl_toM (pl_liChunG A.y1 A.y2 l)).toYmd
  hy4 : pl_CmpSpec A.y4 (pl_toM l.solar).toYmdHms (pl_toM (pl_liChunG A.y1 A.y2 l)).toYmdHms
  hy5 : pl_CmpSpec A.y5 (pl_toM l.solar).toYmd (pl_toM (pl_liChunG A.y1 A.y2 l)).toYmd
  hy6 : pl_CmpSpec A.y6 (pl_toM l.solar).toYmdHms (pl_toM (pl_liChunG A.y1 A.y2 l)).toYmdHms
  hm3 : ∀ k : Nat, k < 16 → pl_CmpSpec (A.m3 (2 * (k : Int))) (pl_toM l.solar).toYmd
      (pl_startKey Model.Solar.toYmd (pl_toM l.solar).toYmd ya.terms k)
  hm4 : ∀ k : Nat, k < 16 → pl_CmpSpec (A.m4 (2 * (k : Int))) (pl_toM l.solar).toYmd
      (pl_jieAt ya.terms (2 * k)).toYmd
  hm7 : ∀ k : Nat, k < 16 → pl_CmpSpec (A.m7 (2 * (k : Int))) (pl_toM l.solar).toYmdHms
      (pl_startKey Model.Solar.toYmdHms (pl_toM l.solar).toYmdHms ya.terms k)
  hm8 : ∀ k : Nat, k < 16 → pl_CmpSpec (A.m8 (2 * (k : Int))) (pl_toM l.solar).toYmdHms
      (pl_jieAt ya.terms (2 * k)).toYmdHms
  hd1 : A.d1 = Model.jdn l.solar.year l.solar.month l.solar.day - 11
  hd2 : pl_CmpSpec A.d2 (Model.fmtHm l.hour l.minute) ['2', '3', ':', '0', '0']
  hd3 : pl_CmpSpec A.d3 (Model.fmtHm l.hour l.minute) ['2', '3', ':', '5', '9']
  ht1 : A.t1 = Model.timeZhiIndexOf l.hour l.minute
  hw1 : A.w1 = (pl_toM l.solar).week

/-- `FnEq.compute_steps_eq` in bundled form. -/
theorem computeSteps_eq (ya : Model.YearAstro) (A : ComputeAtoms) (l : Gen.Fn.Lunar)
    (h : ComputeAtomsOk ya A l) :
    computeSteps A l =
      .ok (pl_ofLunar (Model.computeAll l.year l.month l.day l.hour l.minute l.second
            (pl_toM l.solar) ya) l.solar l.eightChar) :=
  compute_steps_eq ya A.y1 A.y2 A.y3 A.y4 A.y5 A.y6 A.m1 A.m2 A.m3 A.m4 A.m5 A.m6 A.m7 A.m8
    A.d1 A.d2 A.d3 A.t1 A.w1 l h.hv h.h0 h.hy1 h.hy2 h.hy3 h.hy4 h.hy5 h.hy6 h.hm3 h.hm4 h.hm7 h.hm8
    h.hd1 h.hd2 h.hd3 h.ht1 h.hw1

theorem e2e_computeAll_day (ly lm ld h mi sec : Int) (s : Model.Solar) (ya : Model.YearAstro) :
    let m := Model.computeAll ly lm ld h mi sec s ya
    let r := Model.computeDay s h mi
    m.dayGanIndex = r.1 ∧ m.dayZhiIndex = r.2.1 ∧ m.dayGanIndexExact = r.2.2.1 ∧
    m.dayZhiIndexExact = r.2.2.2.1 ∧ m.dayGanIndexExact2 = r.2.2.2.2.1 ∧
    m.dayZhiIndexExact2 = r.2.2.2.2.2 := by
  simp only [Model.computeAll, and_self]

theorem e2e_computeAll_input (ly lm ld h mi sec : Int) (s : Model.Solar) (ya : Model.YearAstro) :
    let m := Model.computeAll ly lm ld h mi sec s ya
    m.year = ly ∧ m.month = lm ∧ m.day = ld ∧ m.hour = h ∧ m.minute = mi ∧ m.second = sec := by
  simp only [Model.computeAll, and_self]

theorem e2e_computeAll_year (ly lm ld h mi sec : Int) (s : Model.Solar) (ya : Model.YearAstro) :
    let m := Model.computeAll ly lm ld h mi sec s ya
    let r := Model.computeYear ly s ya.terms
    m.yearGanIndex = r.1 ∧ m.yearZhiIndex = r.2.1 ∧ m.yearGanIndexByLiChun = r.2.2.1 ∧
    m.yearZhiIndexByLiChun = r.2.2.2.1 ∧ m.yearGanIndexExact = r.2.2.2.2.1 ∧
    m.yearZhiIndexExact = r.2.2.2.2.2 := by
  simp only [Model.computeAll, and_self]

/-- HOUR and DAY pillars of the generated `compute`: the run succeeds, and in its result
* the hour branch is the two-hour slot `(hour + 1) / 2 % 12` (`Model.time_pillar`/`timeZhi_eq`);
* the hour stem follows the five-rats rule from the (early-rat) day stem (`Model.time_pillar`);
* the day pillar is `(jdn − 11) % 10`, `(jdn − 11) % 12` (`Model.computeDay_plain`), the late-rat
  (`Exact2`) pillar equals it, and the early-rat (`Exact`) pillar is the NEXT pillar from 23:00 on
  and the same pillar otherwise (`Model.computeDay_exact`);
* the week index is the weekday of the civil date; date, time and `solar` are untouched. -/
theorem compute_time_day (ya : Model.YearAstro) (A : ComputeAtoms) (l : Gen.Fn.Lunar)
    (h : ComputeAtomsOk ya A l) (hh : 0 ≤ l.hour ∧ l.hour ≤ 23) (hm : 0 ≤ l.minute ∧ l.minute ≤ 59) :
    ∃ r, computeSteps A l = .ok r ∧
      r.timeZhiIndex = ((l.hour + 1) / 2) % 12 ∧
      r.timeGanIndex = (r.dayGanIndexExact % 5 * 2 + r.timeZhiIndex) % 10 ∧
      r.dayGanIndex = ((toM l.solar).jdn - 11) % 10 ∧
      r.dayZhiIndex = ((toM l.solar).jdn - 11) % 12 ∧
      r.dayGanIndexExact2 = r.dayGanIndex ∧ r.dayZhiIndexExact2 = r.dayZhiIndex ∧
      (l.hour = 23 → r.dayGanIndexExact = (r.dayGanIndex + 1) % 10 ∧
                      r.dayZhiIndexExact = (r.dayZhiIndex + 1) % 12) ∧
      (l.hour ≠ 23 → r.dayGanIndexExact = r.dayGanIndex ∧ r.dayZhiIndexExact = r.dayZhiIndex) ∧
      r.weekIndex = (toM l.solar).week ∧
      r.solar = l.solar ∧ r.eightChar = l.eightChar ∧
      r.year = l.year ∧ r.month = l.month ∧ r.day = l.day ∧
      r.hour = l.hour ∧ r.minute = l.minute ∧ r.second = l.second := by
  refine ⟨_, computeSteps_eq ya A l h, ?_⟩
  obtain ⟨t1, t2, t3⟩ := Model.time_pillar l.year l.month l.day l.hour l.minute l.second
    (pl_toM l.solar) ya hh hm
  obtain ⟨d1, d2, d3, d4, d5, d6⟩ := e2e_computeAll_day l.year l.month l.day l.hour l.minute
    l.second (pl_toM l.solar) ya
  obtain ⟨x1, x2, x3, x4⟩ := Model.computeDay_exact (pl_toM l.solar) l.hour l.minute hh hm
  simp only [← d1, ← d2, ← d3, ← d4, ← d5, ← d6] at x1 x2 x3 x4
  have hf := e2e_computeAll_input l.year l.month l.day l.hour l.minute l.second (pl_toM l.solar) ya
  -- with the model record opaque, the fields of its Go image are read off without unfolding `computeAll`
  generalize Model.computeAll l.year l.month l.day l.hour l.minute l.second (pl_toM l.solar) ya = m at *
  exact ⟨t1, t2, d1, d2, x1, x2, x3, x4, t3, rfl, rfl, hf⟩

/-- The sexagenary position of the generated day pillar is `(jdn − 11) mod 60`. -/
theorem compute_day_cycle (ya : Model.YearAstro) (A : ComputeAtoms) (l r : Gen.Fn.Lunar)
    (h : ComputeAtomsOk ya A l) (hr : computeSteps A l = .ok r) :
    Model.cycleIndex r.dayGanIndex r.dayZhiIndex = ((toM l.solar).jdn - 11) % 60 := by
  rw [computeSteps_eq ya A l h] at hr
  injection hr with hr
  subst hr
  obtain ⟨d1, d2, -⟩ := e2e_computeAll_day l.year l.month l.day l.hour l.minute
    l.second (pl_toM l.solar) ya
  simp only [pl_ofLunar, d1, d2]
  exact Model.day_cycle _ _ _

/-- Consecutive civil days get consecutive day pillars (`Model.day_cycle_succ`): for two runs of
the generated `compute` whose civil dates are one day apart — e.g. `l'.solar` obtained from
`l.solar` by the generated `NextDay 1`, see `compute_day_cycle_nextDay` — the sexagenary position
advances by one (mod 60). -/
theorem compute_day_cycle_succ (ya ya' : Model.YearAstro) (A A' : ComputeAtoms)
    (l l' r r' : Gen.Fn.Lunar) (h : ComputeAtomsOk ya A l) (h' : ComputeAtomsOk ya' A' l')
    (hj : (toM l'.solar).jdn = (toM l.solar).jdn + 1)
    (hr : computeSteps A l = .ok r) (hr' : computeSteps A' l' = .ok r') :
    Model.cycleIndex r'.dayGanIndex r'.dayZhiIndex =
      (Model.cycleIndex r.dayGanIndex r.dayZhiIndex + 1) % 60 := by
  rw [compute_day_cycle ya A l r h hr, compute_day_cycle ya' A' l' r' h' hr', hj]
  omega

/-- … in particular when the second civil date comes from the generated `NextDay 1`. -/
theorem compute_day_cycle_nextDay (fuel : Nat) (ya ya' : Model.YearAstro) (A A' : ComputeAtoms)
    (l l' r r' : Gen.Fn.Lunar) (h : ComputeAtomsOk ya A l) (h' : ComputeAtomsOk ya' A' l')
    (hs : (toM l.solar).valid = true) (hf : 3 ≤ fuel)
    (hn : Gen.Fn.calendar_Solar_NextDay fuel l.solar 1 = .ok l'.solar)
    (hr : computeSteps A l = .ok r) (hr' : computeSteps A' l' = .ok r') :
    Model.cycleIndex r'.dayGanIndex r'.dayZhiIndex =
      (Model.cycleIndex r.dayGanIndex r.dayZhiIndex + 1) % 60 :=
  compute_day_cycle_succ ya ya' A A' l l' r r' h h'
    (nextDay_jdn fuel l.solar l'.solar 1 hs (by simpa using hf) hn).1 hr hr'

/-- All nine pillars written by the generated `compute` are genuine stem-branch pairs (ranges and
equal parity), from `Model.pillars_valid`; the hypotheses on the term table, the civil stamp and the lunar year are
not needed (`Model.computeAll_pillarOk`). -/
theorem compute_pillars_valid (ya : Model.YearAstro) (A : ComputeAtoms) (l : Gen.Fn.Lunar)
    (h : ComputeAtomsOk ya A l)
    (hts : Model.termsOk l.solar.year ya.terms = true) (hs : Model.stampValid (toM l.solar) = true)
    (hh : 0 ≤ l.hour ∧ l.hour ≤ 23) (hm : 0 ≤ l.minute ∧ l.minute ≤ 59)
    (hly : l.year = l.solar.year - 1 ∨ l.year = l.solar.year ∨ l.year = l.solar.year + 1) :
    ∃ r, computeSteps A l = .ok r ∧
      Model.pillarOk r.yearGanIndex r.yearZhiIndex ∧
      Model.pillarOk r.yearGanIndexByLiChun r.yearZhiIndexByLiChun ∧
      Model.pillarOk r.yearGanIndexExact r.yearZhiIndexExact ∧
      Model.pillarOk r.monthGanIndex r.monthZhiIndex ∧
      Model.pillarOk r.monthGanIndexExact r.monthZhiIndexExact ∧
      Model.pillarOk r.dayGanIndex r.dayZhiIndex ∧
      Model.pillarOk r.dayGanIndexExact r.dayZhiIndexExact ∧
      Model.pillarOk r.dayGanIndexExact2 r.dayZhiIndexExact2 ∧
      Model.pillarOk r.timeGanIndex r.timeZhiIndex := by
  refine ⟨_, computeSteps_eq ya A l h, ?_⟩
  have hp := Model.pillars_valid l.year l.month l.day l.hour l.minute l.second (pl_toM l.solar) ya hts hs hh hm hly
  generalize Model.computeAll l.year l.month l.day l.hour l.minute l.second (pl_toM l.solar) ya = m at hp ⊢
  exact hp

/-- YEAR pillars of the generated `compute` under the three conventions (`Model.year_pillars_partial`: the Lichun
rule with its exception for a lunar year leading the civil year, see `Model.year_pillars_counterexample`). -/
theorem compute_year_pillars (ya : Model.YearAstro) (A : ComputeAtoms) (l : Gen.Fn.Lunar)
    (h : ComputeAtomsOk ya A l)
    (hts : Model.termsOk l.solar.year ya.terms = true) (hs : Model.stampValid (toM l.solar) = true)
    (hly : l.year = l.solar.year - 1 ∨ l.year = l.solar.year ∨ l.year = l.solar.year + 1) :
    let s := toM l.solar
    let L := ya.terms.getD 4 Model.nilSolar
    let Yd : Int := if l.year ≤ s.year ∧ (s.year * 100 + s.month) * 100 + s.day <
        (L.year * 100 + L.month) * 100 + L.day then s.year - 1 else s.year
    let Yi : Int := if l.year ≤ s.year ∧ s.key < L.key then s.year - 1 else s.year
    ∃ r, computeSteps A l = .ok r ∧
      r.yearGanIndex = (l.year - 4) % 10 ∧ r.yearZhiIndex = (l.year - 4) % 12 ∧
      r.yearGanIndexByLiChun = (Yd - 4) % 10 ∧ r.yearZhiIndexByLiChun = (Yd - 4) % 12 ∧
      r.yearGanIndexExact = (Yi - 4) % 10 ∧ r.yearZhiIndexExact = (Yi - 4) % 12 := by
  intro s L Yd Yi
  refine ⟨_, computeSteps_eq ya A l h, ?_⟩
  obtain ⟨y1, y2, y3, y4, y5, y6⟩ := e2e_computeAll_year l.year l.month l.day l.hour l.minute
    l.second (pl_toM l.solar) ya
  obtain ⟨q1, q2, q3, q4, q5, q6⟩ := Model.year_pillars_partial l.year (pl_toM l.solar) ya.terms
    hts hs hly
  exact ⟨y1.trans q1, y2.trans q2, y3.trans q3, y4.trans q4, y5.trans q5, y6.trans q6⟩

end FnE2E
