import Proofs.NineStarSpec
-- some property statements carry hypotheses their proofs do not need; each follows from the theorem directly above it
set_option linter.unusedVariables false
namespace Model
open Gen.Tables

/-! # Pillars: hour, day, year, month (sexagenary stem/branch indices)
Every pillar `compute` writes is the pair `(n % 10, n % 12)` of a position `n` in the 60-cycle: `jdn − 11` for the
day (`computeDay_eq_mod`), `ly − 4` plus a Lichun shift for the year (`computeYear_eq_shift`), twelve per year
stem for the month (`monthPillarOf_cycle`); validity and the step theorems are read off these positions.
The property statements spell the day key `(year·100 + month)·100 + day` out; it is `dayKey` of `Proofs.JieQiSpec`. -/

theorem hourSlot (h mi i j : Int) (hh : 0 ≤ h ∧ h ≤ 23) (hm : 0 ≤ mi ∧ mi ≤ 59) (hi : 0 ≤ i ∧ i ≤ 99) (hj : 0 ≤ j ∧ j ≤ 99) :
    (strGe (fmtHm h mi) (fmtHm i 0) && strLe (fmtHm h mi) (fmtHm j 59)) = decide (i ≤ h ∧ h ≤ j) := by
  rw [strGe_of_cmp (cmp_fmtHm h mi i 0 (by omega) (by omega) hi (by omega)),
    strLe_of_cmp (cmp_fmtHm h mi j 59 (by omega) (by omega) hj (by omega)), ← Bool.decide_and]
  exact decide_eq_decide.mpr (by omega)

/-- the scan is at slot `x` (hours `2x−1`, `2x`), and the hour is not in an earlier slot -/
theorem timeZhiScan_eq (h mi : Int) (hh : 0 ≤ h ∧ h ≤ 23) (hm : 0 ≤ mi ∧ mi ≤ 59) :
    ∀ (fuel : Nat) (i x : Int), i = 2 * x - 1 → 1 ≤ x → 13 ≤ fuel + x → (h = 0 ∨ i ≤ h) →
      timeZhiScan (fmtHm h mi) fuel i x = (h + 1) / 2 % 12 := by
  intro fuel
  induction fuel with
  | zero => intro i x hi hx hf hinv; simp only [timeZhiScan]; omega
  | succ fuel ih =>
    intro i x hi hx hf hinv
    unfold timeZhiScan
    split
    · omega
    · simp only [hourSlot h mi i (i + 1) hh hm (by omega) (by omega), decide_eq_true_eq]
      split
      · omega
      · exact ih (i + 2) (x + 1) (by omega) (by omega) (by omega) (by omega)

/-- HOUR: the branch is fixed by the two-hour slot: 23:00–00:59 → 0 (子), 01:00–02:59 → 1, …, 21:00–22:59 → 11 -/
theorem timeZhi_eq (h mi : Int) (hh : 0 ≤ h ∧ h ≤ 23) (hm : 0 ≤ mi ∧ mi ≤ 59) : timeZhiIndexOf h mi = ((h + 1) / 2) % 12 :=
  timeZhiScan_eq h mi hh hm 12 1 1 (by omega) (by omega) (by omega) (by omega)

/-- the early-rat pillar is one position on during the last hour (Go's `x++; if x >= m { x -= m }` on a residue) -/
theorem computeDay_eq_mod (s : Solar) (h mi : Int) :
    computeDay s h mi =
      (let o := s.jdn - 11
       let e := if (strGe (fmtHm h mi) (fmtHm 23 0) && strLe (fmtHm h mi) (fmtHm 23 59)) = true then o + 1 else o
       (o % 10, o % 12, e % 10, e % 12, o % 10, o % 12)) := by
  simp only [computeDay, Solar.jdn]
  cases strGe (fmtHm h mi) (fmtHm 23 0) && strLe (fmtHm h mi) (fmtHm 23 59)
  · rfl
  · simp only [if_true, Prod.mk.injEq, true_and, and_true]
    constructor <;> omega

/-- DAY: plain day pillar from the day number -/
theorem computeDay_plain (s : Solar) (h mi : Int) :
    (computeDay s h mi).1 = (s.jdn - 11) % 10 ∧ (computeDay s h mi).2.1 = (s.jdn - 11) % 12 :=
  ⟨rfl, rfl⟩

/-- 60-cycle index of a (stem, branch) pair with equal parity -/
def cycleIndex (g z : Int) : Int := (6 * g - 5 * z) % 60

theorem cycleIndex_spec (i : Int) : cycleIndex (i % 10) (i % 12) = i % 60 := by
  unfold cycleIndex
  omega

theorem day_cycle (s : Solar) (h mi : Int) :
    cycleIndex (computeDay s h mi).1 (computeDay s h mi).2.1 = (s.jdn - 11) % 60 :=
  cycleIndex_spec _

theorem day_cycle_succ (s r : Solar) (h : r.jdn = s.jdn + 1) (hh mi : Int) :
    cycleIndex (computeDay r hh mi).1 (computeDay r hh mi).2.1 = (cycleIndex (computeDay s hh mi).1 (computeDay s hh mi).2.1 + 1) % 60 := by
  rw [day_cycle, day_cycle, h]
  omega

/-- early-rat convention (Exact): 23:00–23:59 belongs to the next day; late-rat (Exact2): same day -/
theorem computeDay_exact (s : Solar) (h mi : Int) (hh : 0 ≤ h ∧ h ≤ 23) (hm : 0 ≤ mi ∧ mi ≤ 59) :
    let r := computeDay s h mi
    r.2.2.2.2.1 = r.1 ∧ r.2.2.2.2.2 = r.2.1 ∧
    (h = 23 → r.2.2.1 = (r.1 + 1) % 10 ∧ r.2.2.2.1 = (r.2.1 + 1) % 12) ∧
    (h ≠ 23 → r.2.2.1 = r.1 ∧ r.2.2.2.1 = r.2.1) := by
  simp only [computeDay_eq_mod, hourSlot h mi 23 23 hh hm (by omega) (by omega), decide_eq_true_eq]
  refine ⟨trivial, trivial, fun h23 => ?_, fun h23 => ?_⟩
  · rw [if_pos (by omega)]; omega
  · rw [if_neg (by omega)]; exact ⟨rfl, rfl⟩

/-- hour stem from the (early-rat) day stem by the five-rats rule; all in `computeAll` -/
theorem time_pillar (ly lm ld h mi sec : Int) (s : Solar) (ya : YearAstro) (hh : 0 ≤ h ∧ h ≤ 23) (hm : 0 ≤ mi ∧ mi ≤ 59) :
    let l := computeAll ly lm ld h mi sec s ya
    l.timeZhiIndex = ((h + 1) / 2) % 12 ∧ l.timeGanIndex = (l.dayGanIndexExact % 5 * 2 + l.timeZhiIndex) % 10 ∧
    l.weekIndex = s.week := by
  simp only [computeAll, timeZhi_eq h mi hh hm, and_self]

/-- the Lichun stamp `computeYear` compares with -/
def liChunOf (s : Solar) (ts : List Solar) : Solar :=
  if (termByName ts "立春").year ≠ s.year then termByName ts "LI_CHUN" else termByName ts "立春"

theorem liChunOf_eq (s : Solar) (ts : List Solar) (h : (ts.getD 4 nilSolar).year = s.year) :
    liChunOf s ts = ts.getD 4 nilSolar := by
  rw [liChunOf, termByName_liChun, if_neg (not_not_intro h)]

/-- by how many years the Lichun-based count differs from the lunar year `ly`; `lt`/`ge` are the tests
"now before Lichun" / "now at or after Lichun" of civil year `sy` -/
def lichunShift (ly sy : Int) (lt ge : Bool) : Int :=
  if ly = sy then (if lt then -1 else 0) else if ly < sy then (if ge then 1 else 0) else -1

theorem lichunShift_ge (ly sy : Int) (lt ge : Bool) : -1 ≤ lichunShift ly sy lt ge := by
  unfold lichunShift
  omega

theorem fix_emod (v m : Int) : (if v < 0 then v + m else v) % m = v % m := by
  split
  · exact Int.add_emod_right v m
  · rfl

/-- all six year indices, for every input: the residues of `ly − 4` and of its two Lichun shifts -/
theorem computeYear_eq_shift (ly : Int) (s : Solar) (ts : List Solar) :
    computeYear ly s ts =
      (let L := liChunOf s ts
       let d := lichunShift ly s.year (strLt s.toYmd L.toYmd) (strGe s.toYmd L.toYmd)
       let i := lichunShift ly s.year (strLt s.toYmdHms L.toYmdHms) (strGe s.toYmdHms L.toYmdHms)
       ((ly - 4) % 10, (ly - 4) % 12, (ly - 4 + d) % 10, (ly - 4 + d) % 12, (ly - 4 + i) % 10, (ly - 4 + i) % 12)) := by
  unfold computeYear liChunOf lichunShift normMod
  simp only []
  generalize (if (termByName ts "立春").year ≠ s.year then termByName ts "LI_CHUN" else termByName ts "立春") = L
  generalize strLt s.toYmd L.toYmd = b3
  generalize strLt s.toYmdHms L.toYmdHms = b4
  generalize strGe s.toYmd L.toYmd = b5
  generalize strGe s.toYmdHms L.toYmdHms = b6
  by_cases hy : ly = s.year
  · simp only [hy, if_true]
    cases b3 <;> cases b4 <;>
      simp only [fix_emod, Int.emod_sub_emod, Int.emod_emod, Int.add_zero, reduceIte, Bool.false_eq_true] <;> rfl
  · by_cases hlt : ly < s.year
    · simp only [hy, hlt, if_true, if_false]
      cases b5 <;> cases b6 <;>
        simp only [fix_emod, Int.emod_add_emod, Int.emod_emod, Int.add_zero, reduceIte, Bool.false_eq_true]
    · simp only [hy, hlt, if_false, fix_emod, Int.emod_sub_emod]
      rfl

theorem lichunShift_spec (ly sy a b : Int) (hly : ly = sy - 1 ∨ ly = sy ∨ ly = sy + 1) :
    ly - 4 + lichunShift ly sy (decide (a < b)) (decide (b ≤ a)) = (if ly ≤ sy ∧ a < b then sy - 1 else sy) - 4 := by
  simp only [lichunShift, decide_eq_true_eq]
  omega

/-- YEAR pillars. `ly` = lunar year of the date, `s` its civil date-time, Lichun stamp L = ts[4].
New-Year convention: (ly−4) mod 10/12. Lichun-day convention: pillar of civil year s.year from the Lichun DAY on, of
s.year−1 before — EXCEPT when the lunar year leads the civil year (ly = s.year+1), where the code always yields the
pillar of s.year, whatever the position relative to Lichun. Lichun-instant convention: same with the Lichun SECOND.
(`_partial` in the name: the Lichun rule without that exception is false, see `year_pillars_counterexample`; this is
the rule as the code implements it, on all of the domain.) -/
theorem year_pillars_partial (ly : Int) (s : Solar) (ts : List Solar) (hts : termsOk s.year ts = true) (hs : stampValid s = true)
    (hly : ly = s.year - 1 ∨ ly = s.year ∨ ly = s.year + 1) :
    let r := computeYear ly s ts
    let L := ts.getD 4 nilSolar
    let Yd : Int := if ly ≤ s.year ∧ (s.year * 100 + s.month) * 100 + s.day < (L.year * 100 + L.month) * 100 + L.day then s.year - 1 else s.year
    let Yi : Int := if ly ≤ s.year ∧ s.key < L.key then s.year - 1 else s.year
    r.1 = (ly - 4) % 10 ∧ r.2.1 = (ly - 4) % 12 ∧
    r.2.2.1 = (Yd - 4) % 10 ∧ r.2.2.2.1 = (Yd - 4) % 12 ∧
    r.2.2.2.2.1 = (Yi - 4) % 10 ∧ r.2.2.2.2.2 = (Yi - 4) % 12 := by
  have hL := (termsOk_facts hts).2.1 4 (by omega)
  simp only [computeYear_eq_shift, liChunOf_eq s ts (term_liChun_year hts), keyOrd_ymd.lt s _ hs hL, keyOrd_ymd.ge s _ hs hL,
    keyOrd_hms.lt s _ hs hL, keyOrd_hms.ge s _ hs hL, lichunShift_spec _ _ _ _ hly]
  -- what is left has `dayKey` unfolded on one side
  exact ⟨trivial, trivial, rfl, rfl, trivial, trivial⟩

/-- the Lichun rule without exception, under the extra hypothesis that a lunar year leading the civil year
(`ly = s.year + 1`) only occurs at or after the Lichun instant (without it the rule is false:
see `year_pillars_counterexample`) -/
theorem year_pillars_of_lead_after (ly : Int) (s : Solar) (ts : List Solar) (hts : termsOk s.year ts = true) (hs : stampValid s = true)
    (hly : ly = s.year - 1 ∨ ly = s.year ∨ ly = s.year + 1)
    (hlead : ly = s.year + 1 → (ts.getD 4 nilSolar).key ≤ s.key) :
    let r := computeYear ly s ts
    let L := ts.getD 4 nilSolar
    let Yd : Int := if (s.year * 100 + s.month) * 100 + s.day < (L.year * 100 + L.month) * 100 + L.day then s.year - 1 else s.year
    let Yi : Int := if s.key < L.key then s.year - 1 else s.year
    r.1 = (ly - 4) % 10 ∧ r.2.1 = (ly - 4) % 12 ∧
    r.2.2.1 = (Yd - 4) % 10 ∧ r.2.2.2.1 = (Yd - 4) % 12 ∧
    r.2.2.2.2.1 = (Yi - 4) % 10 ∧ r.2.2.2.2.2 = (Yi - 4) % 12 := by
  -- a Lichun instant at or before `s` is a Lichun day at or before the day of `s`
  have h8 : ly = s.year + 1 → dayKey (ts.getD 4 nilSolar) ≤ dayKey s := fun h => by
    have := hlead h
    have := stampValid_bounds s hs
    have := stampValid_bounds _ ((termsOk_facts hts).2.1 4 (by omega))
    rw [key_split, key_split] at *
    omega
  have c8 : ly ≤ s.year ∧ dayKey s < dayKey (ts.getD 4 nilSolar) ↔ dayKey s < dayKey (ts.getD 4 nilSolar) := by omega
  have c14 : ly ≤ s.year ∧ s.key < (ts.getD 4 nilSolar).key ↔ s.key < (ts.getD 4 nilSolar).key := by omega
  unfold dayKey at c8
  have hp := year_pillars_partial ly s ts hts hs hly
  simp only [c8, c14] at hp
  exact hp

/-- MONTH pillar: the scan index is (number of Jie entries — the even entries 0,2,…,30 of the table — at or before now) − 3 -/
def jieCount (key : Solar → Int) (now : Int) (ts : List Solar) : Int :=
  (((List.range 16).filter (fun j => decide (key (ts.getD (2 * j) nilSolar) ≤ now))).length : Int)

/-- along a non-decreasing `f`, at most `k` of `f a, …, f (a+n−1)` are `≤ now` iff the `k`-th of them, if any, is `> now` -/
theorem count_le_iff (f : Nat → Int) (now : Int) : ∀ (n a k : Nat), (∀ i j, i ≤ j → j < a + n → f i ≤ f j) →
    (((List.range' a n).filter (fun j => decide (f j ≤ now))).length ≤ k ↔ (k < n → now < f (a + k))) := by
  intro n
  induction n with
  | zero => intro a k _; simp
  | succ n ih =>
    intro a k hf
    have ih := fun k => ih (a + 1) k fun i j hij hj => hf i j hij (by omega)
    rw [List.range'_succ, List.filter_cons]
    by_cases c : f a ≤ now
    · rw [if_pos (decide_eq_true c), List.length_cons]
      cases k with
      | zero => simpa using c
      | succ k => rw [Nat.add_le_add_iff_right, ih, Nat.add_lt_add_iff_right, Nat.add_right_comm a 1 k, Nat.add_assoc]
    · rw [if_neg (by simpa using c), ih]
      have h1 := hf a (a + k) (by omega)
      have h2 := hf a (a + 1 + k) (by omega)
      omega

/-- `hge`: the scan has just passed the previous entry, so only the comparison with entry `i` decides -/
theorem monthScan_succ (key : Solar → List Char) (now : List Char) (ts : List Solar) (fuel i : Nat) (start : Option Solar)
    (idx : Int) (hi : i < 31) (hge : start.all (fun t => strGe now (key t)) = true) :
    monthScan key now ts (fuel + 1) i start idx =
      if strLt now (key (ts.getD i nilSolar)) = true then idx
      else monthScan key now ts fuel (i + 2) (some (ts.getD i nilSolar)) (idx + 1) := by
  have hguard : ¬ i ≥ calendar.JIE_QI_IN_USE.length := by rw [names_len.1]; omega
  conv => lhs; unfold monthScan
  cases start
  · simp only [hguard, if_false, termByName_at ts i hi, strGe_self, Bool.true_and]
  · simp only [hguard, if_false, termByName_at ts i hi, Option.all_some ▸ hge, Bool.true_and]

theorem monthScan_gen {key : Solar → List Char} {K : Solar → Int} {V : Solar → Prop} (ho : KeyOrd key K V)
    (s : Solar) (ts : List Solar) (hs : V s) (hV : ∀ i, i < 31 → V (ts.getD i nilSolar))
    (hmono : ∀ i j, i ≤ j → j < 31 → K (ts.getD i nilSolar) ≤ K (ts.getD j nilSolar)) :
    ∀ (fuel j : Nat) (start : Option Solar) (idx : Int), fuel + j = 16 →
      start.all (fun t => strGe (key s) (key t)) = true →
      monthScan key (key s) ts fuel (2 * j) start idx =
        idx + (((List.range' j fuel).filter (fun j => decide (K (ts.getD (2 * j) nilSolar) ≤ K s))).length : Int) := by
  intro fuel
  induction fuel with
  | zero => intro j start idx _ _; simp [monthScan]
  | succ fuel ih =>
    intro j start idx hf hge
    have hj := hV (2 * j) (by omega)
    rw [monthScan_succ key (key s) ts fuel (2 * j) start idx (by omega) hge, ho.lt s _ hs hj]
    simp only [decide_eq_true_eq]
    split
    · next hlt =>
      -- `s` is before entry `j`, hence before all later ones
      have := (count_le_iff (fun j => K (ts.getD (2 * j) nilSolar)) (K s) (fuel + 1) j 0 fun i k hik hk =>
        hmono _ _ (by omega) (by omega)).mpr fun _ => hlt
      omega
    · next hge' =>
      rw [show 2 * j + 2 = 2 * (j + 1) by omega, ih (j + 1) _ (idx + 1) (by omega)
        (by rw [Option.all_some, ho.ge s _ hs hj]; exact decide_eq_true (by omega)),
        List.range'_succ, List.filter_cons, if_pos (decide_eq_true (by omega)), List.length_cons]
      omega

theorem monthScan_count {key : Solar → List Char} {K : Solar → Int} {V : Solar → Prop} (ho : KeyOrd key K V)
    (s : Solar) (ts : List Solar) (hs : V s) (hV : ∀ i, i < 31 → V (ts.getD i nilSolar))
    (hmono : ∀ i j, i ≤ j → j < 31 → K (ts.getD i nilSolar) ≤ K (ts.getD j nilSolar)) :
    monthScan key (key s) ts 16 0 none (-3) = jieCount K (K s) ts - 3 := by
  rw [show (0 : Nat) = 2 * 0 from rfl, monthScan_gen ho s ts hs hV hmono 16 0 none (-3) rfl rfl, jieCount,
    List.range_eq_range']
  omega

/-- day scan: index = (number of Jie whose DAY is at or before the day of `s`) − 3 -/
theorem monthScan_day (y : Int) (s : Solar) (ts : List Solar) (hts : termsOk y ts = true) (hs : stampValid s = true) :
    monthScan Solar.toYmd s.toYmd ts 16 0 none (-3) = jieCount (fun t => (t.year * 100 + t.month) * 100 + t.day) ((s.year * 100 + s.month) * 100 + s.day) ts - 3 :=
  monthScan_count keyOrd_ymd s ts hs (termsOk_facts hts).2.1 fun i j hij hj => (term_le hts i j hij hj).2

/-- instant scan: index = (number of Jie whose INSTANT is at or before `s`) − 3 -/
theorem monthScan_instant (y : Int) (s : Solar) (ts : List Solar) (hts : termsOk y ts = true) (hs : stampValid s = true) :
    monthScan Solar.toYmdHms s.toYmdHms ts 16 0 none (-3) = jieCount Solar.key s.key ts - 3 :=
  monthScan_count keyOrd_hms s ts hs (termsOk_facts hts).2.1 fun i j hij hj => (term_le hts i j hij hj).1

/-- closed form of the month pillar from the scan index k−3 and the year stem g of the matching convention -/
def monthPillarOf (k g : Int) : Int × Int :=          -- k = number of Jie passed (0..16), g = year stem of the convention
  let index := k - 3
  let add : Int := if index < 0 then 1 else 0
  let offset := (((g + add) % 5 + 1) * 2) % 10
  ((((if index < 0 then index + 10 else index) + offset) % 10), ((if index < 0 then index + 12 else index) + 2) % 12)

theorem computeMonth_eq (s : Solar) (ts : List Solar) (gL gE : Int) :
    let kd := monthScan Solar.toYmd s.toYmd ts 16 0 none (-3) + 3
    let ki := monthScan Solar.toYmdHms s.toYmdHms ts 16 0 none (-3) + 3
    computeMonth s ts gL gE = ((monthPillarOf kd gL).1, (monthPillarOf kd gL).2, (monthPillarOf ki gE).1, (monthPillarOf ki gE).2) := by
  simp only [computeMonth, monthPillarOf, LunarUtil.BASE_MONTH_ZHI_INDEX, Int.add_sub_cancel]

/-- position `12·g' + k − 1` of the 60-cycle, twelve months to a year stem; `g'` is `g` plus one while fewer than
three Jie have passed: before Lichun the caller passes the stem of the year that is ending -/
theorem monthPillarOf_cycle (k g : Int) :
    monthPillarOf k g = ((12 * (g + if k < 3 then 1 else 0) + k - 1) % 10, (12 * (g + if k < 3 then 1 else 0) + k - 1) % 12) := by
  simp only [monthPillarOf, Prod.mk.injEq]
  constructor <;> omega

theorem monthPillar_zhi (k g : Int) (hk : 0 ≤ k ∧ k ≤ 16) : (monthPillarOf k g).2 = (k + 11) % 12 := by
  rw [monthPillarOf_cycle]
  omega

/-- one step per Jie: for 0 ≤ k < 16, with the Lichun-based year stem g(k) = gPrev for k ≤ 2 and (gPrev+1) mod 10 for k ≥ 3 -/
theorem monthPillar_step (k gPrev : Int) (hk : 0 ≤ k ∧ k < 15) (hg : 0 ≤ gPrev ∧ gPrev ≤ 9) :
    let g := fun (k : Int) => if k ≤ 2 then gPrev else (gPrev + 1) % 10
    cycleIndex (monthPillarOf (k + 1) (g (k + 1))).1 (monthPillarOf (k + 1) (g (k + 1))).2 =
      (cycleIndex (monthPillarOf k (g k)).1 (monthPillarOf k (g k)).2 + 1) % 60 := by
  simp only [monthPillarOf_cycle, cycleIndex_spec]
  omega

/-- five-tigers rule: in the month that starts at Lichun (k = 3) the stem is (2·(g mod 5) + 2) mod 10 -/
theorem five_tigers (g : Int) (hg : 0 ≤ g ∧ g ≤ 9) : (monthPillarOf 3 g).1 = (2 * (g % 5) + 2) % 10 ∧ (monthPillarOf 3 g).2 = 2 := by
  rw [monthPillarOf_cycle]
  omega

/-- one of the 60 stem-branch pairs -/
def pillarOk (g z : Int) : Prop := 0 ≤ g ∧ g ≤ 9 ∧ 0 ≤ z ∧ z ≤ 11 ∧ g % 2 = z % 2

theorem pillarOk_mod (a : Int) : pillarOk (a % 10) (a % 12) := by
  unfold pillarOk; omega

/-- on the 60 pillars `cycleIndex` is the position in `LunarUtil.JIA_ZI` that the model's `ganZhiIndex` looks up -/
theorem cycleIndex_eq_ganZhiIndex (g z : Int) (h : pillarOk g z) : cycleIndex g z = ganZhiIndex g z :=
  (ganZhiIndex_eq g z ⟨h.1, h.2.1⟩ ⟨h.2.2.1, h.2.2.2.1⟩ h.2.2.2.2).symm

/-- needs neither the term table nor the lunar year; the hour pillar is position `12·dayStem + hourBranch` -/
theorem computeAll_pillarOk (ly lm ld h mi sec : Int) (s : Solar) (ya : YearAstro) (hh : 0 ≤ h ∧ h ≤ 23) (hm : 0 ≤ mi ∧ mi ≤ 59) :
    let l := computeAll ly lm ld h mi sec s ya
    pillarOk l.yearGanIndex l.yearZhiIndex ∧ pillarOk l.yearGanIndexByLiChun l.yearZhiIndexByLiChun ∧
    pillarOk l.yearGanIndexExact l.yearZhiIndexExact ∧
    pillarOk l.monthGanIndex l.monthZhiIndex ∧ pillarOk l.monthGanIndexExact l.monthZhiIndexExact ∧
    pillarOk l.dayGanIndex l.dayZhiIndex ∧ pillarOk l.dayGanIndexExact l.dayZhiIndexExact ∧
    pillarOk l.dayGanIndexExact2 l.dayZhiIndexExact2 ∧ pillarOk l.timeGanIndex l.timeZhiIndex := by
  simp only [computeAll, computeYear_eq_shift, computeMonth_eq, monthPillarOf_cycle, computeDay_eq_mod, timeZhi_eq h mi hh hm]
  refine ⟨pillarOk_mod _, pillarOk_mod _, pillarOk_mod _, pillarOk_mod _, pillarOk_mod _, pillarOk_mod _, pillarOk_mod _,
    pillarOk_mod _, ?_⟩
  unfold pillarOk
  omega

/-- every pillar is one of the 60 valid stem-branch pairs: ranges and equal parity -/
theorem pillars_valid (ly lm ld h mi sec : Int) (s : Solar) (ya : YearAstro) (hts : termsOk s.year ya.terms = true)
    (hs : stampValid s = true) (hh : 0 ≤ h ∧ h ≤ 23) (hm : 0 ≤ mi ∧ mi ≤ 59) (hly : ly = s.year - 1 ∨ ly = s.year ∨ ly = s.year + 1) :
    let l := computeAll ly lm ld h mi sec s ya
    let ok := fun (g z : Int) => 0 ≤ g ∧ g ≤ 9 ∧ 0 ≤ z ∧ z ≤ 11 ∧ g % 2 = z % 2
    ok l.yearGanIndex l.yearZhiIndex ∧ ok l.yearGanIndexByLiChun l.yearZhiIndexByLiChun ∧ ok l.yearGanIndexExact l.yearZhiIndexExact ∧
    ok l.monthGanIndex l.monthZhiIndex ∧ ok l.monthGanIndexExact l.monthZhiIndexExact ∧
    ok l.dayGanIndex l.dayZhiIndex ∧ ok l.dayGanIndexExact l.dayZhiIndexExact ∧ ok l.dayGanIndexExact2 l.dayZhiIndexExact2 ∧
    ok l.timeGanIndex l.timeZhiIndex :=
  computeAll_pillarOk ly lm ld h mi sec s ya hh hm

theorem jieCount_le2_iff (K : Solar → Int) (now : Int) (ts : List Solar)
    (hmono : ∀ i j, i ≤ j → j < 31 → K (ts.getD i nilSolar) ≤ K (ts.getD j nilSolar)) :
    jieCount K now ts ≤ 2 ↔ now < K (ts.getD 4 nilSolar) := by
  have := count_le_iff (fun j => K (ts.getD (2 * j) nilSolar)) now 16 0 2 fun i j hij hj => hmono _ _ (by omega) (by omega)
  rw [jieCount, List.range_eq_range']
  simp only [Nat.reduceAdd, Nat.reduceMul] at this
  omega

/-- the year stems that `computeAll` hands to the month pillar are exactly the Lichun-based stems that
`monthPillar_step` assumes: previous-year stem while fewer than three Jie have passed (k ≤ 2), the next stem
from Lichun (k ≥ 3) on — for the day scan with the Lichun-day stem, for the instant scan with the Lichun-instant stem.
(Needs the same side condition as `year_pillars_of_lead_after`.) -/
theorem month_year_consistent (ly : Int) (s : Solar) (ts : List Solar) (hts : termsOk s.year ts = true) (hs : stampValid s = true)
    (hly : ly = s.year - 1 ∨ ly = s.year ∨ ly = s.year + 1)
    (hlead : ly = s.year + 1 → (ts.getD 4 nilSolar).key ≤ s.key) :
    let r := computeYear ly s ts
    let kd := jieCount (fun t => (t.year * 100 + t.month) * 100 + t.day) ((s.year * 100 + s.month) * 100 + s.day) ts
    let ki := jieCount Solar.key s.key ts
    let gPrev := (s.year - 5) % 10
    r.2.2.1 = (if kd ≤ 2 then gPrev else (gPrev + 1) % 10) ∧
    r.2.2.2.2.1 = (if ki ≤ 2 then gPrev else (gPrev + 1) % 10) := by
  obtain ⟨-, -, y3, -, y5, -⟩ := year_pillars_of_lead_after ly s ts hts hs hly hlead
  have hd := jieCount_le2_iff (fun t => (t.year * 100 + t.month) * 100 + t.day) ((s.year * 100 + s.month) * 100 + s.day) ts
    fun i j hij hj => (term_le hts i j hij hj).2
  have hi := jieCount_le2_iff Solar.key s.key ts fun i j hij hj => (term_le hts i j hij hj).1
  simp only [y3, y5, hd, hi]
  constructor <;> split <;> omega

def terms2024 : List Solar :=
  [⟨2023, 12, 7, 17, 32, 44⟩, ⟨2023, 12, 22, 11, 27, 9⟩, ⟨2024, 1, 6, 4, 49, 8⟩, ⟨2024, 1, 20, 22, 7, 8⟩, ⟨2024, 2, 4, 16, 26, 53⟩, ⟨2024, 2, 19, 12, 12, 58⟩, ⟨2024, 3, 5, 10, 22, 31⟩, ⟨2024, 3, 20, 11, 6, 11⟩, ⟨2024, 4, 4, 15, 2, 3⟩, ⟨2024, 4, 19, 21, 59, 32⟩, ⟨2024, 5, 5, 8, 9, 51⟩, ⟨2024, 5, 20, 20, 59, 17⟩, ⟨2024, 6, 5, 12, 9, 40⟩, ⟨2024, 6, 21, 4, 50, 46⟩, ⟨2024, 7, 6, 22, 19, 49⟩, ⟨2024, 7, 22, 15, 44, 11⟩, ⟨2024, 8, 7, 8, 9, 1⟩, ⟨2024, 8, 22, 22, 54, 48⟩, ⟨2024, 9, 7, 11, 11, 5⟩, ⟨2024, 9, 22, 20, 43, 27⟩, ⟨2024, 10, 8, 2, 59, 42⟩, ⟨2024, 10, 23, 6, 14, 32⟩, ⟨2024, 11, 7, 6, 19, 49⟩, ⟨2024, 11, 22, 3, 56, 16⟩, ⟨2024, 12, 6, 23, 16, 47⟩, ⟨2024, 12, 21, 17, 20, 19⟩, ⟨2025, 1, 5, 10, 32, 31⟩, ⟨2025, 1, 20, 3, 59, 52⟩, ⟨2025, 2, 3, 22, 10, 13⟩, ⟨2025, 2, 18, 18, 6, 18⟩, ⟨2025, 3, 5, 16, 7, 2⟩]

/-- the Lichun rule without exception (the conclusion of `year_pillars_of_lead_after`) fails when the lunar year leads
the civil year before Lichun: ly = 2025, s = 2024-01-01 00:00:00, the term table of 2024. The hypotheses of
`year_pillars_partial` hold; the model gives Lichun-day stem 0 (year 2024), the rule says 9 (year 2023). -/
theorem year_pillars_counterexample :
    let s : Solar := ⟨2024, 1, 1, 0, 0, 0⟩
    let ts := terms2024
    let ly : Int := 2025
    termsOk s.year ts = true ∧ stampValid s = true ∧ ly = s.year + 1 ∧
    (computeYear ly s ts).2.2.1 = 0 ∧
    (let L := ts.getD 4 nilSolar
     let Yd : Int := if (s.year * 100 + s.month) * 100 + s.day < (L.year * 100 + L.month) * 100 + L.day then s.year - 1 else s.year
     (Yd - 4) % 10 = 9) := by
  decide +kernel

#print axioms timeZhi_eq
#print axioms computeDay_plain
#print axioms cycleIndex_spec
#print axioms day_cycle_succ
#print axioms computeDay_exact
#print axioms time_pillar
#print axioms year_pillars_partial
#print axioms year_pillars_of_lead_after
#print axioms year_pillars_counterexample
#print axioms monthScan_day
#print axioms monthScan_instant
#print axioms computeMonth_eq
#print axioms monthPillar_zhi
#print axioms monthPillar_step
#print axioms five_tigers
#print axioms month_year_consistent
#print axioms pillars_valid

end Model
