/-
Proofs.FnE2EStar — end-to-end corollaries on the GENERATED year-star function (closed form, step,
2024 = star three): `lunarYear_getNineStar_eq` composed with the model's theorems about the star.
-/
import Proofs.NineStarSpec
import Proofs.FnNineStar

namespace FnE2E

open FnEq

/-- `LunarYear.GetNineStar` in closed form: star index `(1 − Y) mod 9`.  `hg`, `hz` are the invariant
of `NewLunarYear`; the atom `a1` = `GetJiaZiIndex(lunarYear.GetGanZhi())` is the 60-cycle position
of the year's own pillar. -/
theorem lunarYear_star_closed (a1 : Int) (ly : Gen.Fn.LunarYear)
    (hg : ly.ganIndex = (ly.year - 4) % 10) (hz : ly.zhiIndex = (ly.year - 4) % 12)
    (ha1 : a1 = Model.ganZhiIndex ly.ganIndex ly.zhiIndex) (hY : -2696 ≤ ly.year) :
    Gen.Fn.calendar_LunarYear_GetNineStar a1 ly = .ok ⟨(1 - ly.year) % 9⟩ := by
  rw [lunarYear_getNineStar_eq a1 ly hg hz ha1, Model.lunarYear_star_closed ly.year hY]

/-- the same with the atom given numerically: the year's 60-cycle position is `(Y − 4) mod 60` -/
theorem lunarYear_star_closed' (ly : Gen.Fn.LunarYear)
    (hg : ly.ganIndex = (ly.year - 4) % 10) (hz : ly.zhiIndex = (ly.year - 4) % 12)
    (hY : -2696 ≤ ly.year) :
    Gen.Fn.calendar_LunarYear_GetNineStar ((ly.year - 4) % 60) ly = .ok ⟨(1 - ly.year) % 9⟩ :=
  lunarYear_star_closed _ ly hg hz (by rw [hg, hz, Model.ganZhiIndex_cycle]) hY

/-- the star index is one of 0..8 -/
theorem lunarYear_star_range (a1 : Int) (ly : Gen.Fn.LunarYear) (r : Gen.Fn.NineStar)
    (hg : ly.ganIndex = (ly.year - 4) % 10) (hz : ly.zhiIndex = (ly.year - 4) % 12)
    (ha1 : a1 = Model.ganZhiIndex ly.ganIndex ly.zhiIndex) (hY : -2696 ≤ ly.year)
    (h : Gen.Fn.calendar_LunarYear_GetNineStar a1 ly = .ok r) : 0 ≤ r.index ∧ r.index ≤ 8 := by
  rw [lunarYear_getNineStar_eq a1 ly hg hz ha1] at h
  cases h
  exact Model.lunarYear_star_range ly.year hY

/-- the star steps BACK by one (i.e. +8 mod 9) from each lunar year to the next -/
theorem lunarYear_star_step (a1 a1' : Int) (ly ly' : Gen.Fn.LunarYear) (r r' : Gen.Fn.NineStar)
    (hg : ly.ganIndex = (ly.year - 4) % 10) (hz : ly.zhiIndex = (ly.year - 4) % 12)
    (ha1 : a1 = Model.ganZhiIndex ly.ganIndex ly.zhiIndex)
    (hg' : ly'.ganIndex = (ly'.year - 4) % 10) (hz' : ly'.zhiIndex = (ly'.year - 4) % 12)
    (ha1' : a1' = Model.ganZhiIndex ly'.ganIndex ly'.zhiIndex)
    (hY : -2696 ≤ ly.year) (hnext : ly'.year = ly.year + 1)
    (h : Gen.Fn.calendar_LunarYear_GetNineStar a1 ly = .ok r)
    (h' : Gen.Fn.calendar_LunarYear_GetNineStar a1' ly' = .ok r') :
    r'.index = (r.index + 8) % 9 := by
  rw [lunarYear_getNineStar_eq a1 ly hg hz ha1] at h
  rw [lunarYear_getNineStar_eq a1' ly' hg' hz' ha1', hnext] at h'
  cases h
  cases h'
  exact Model.lunarYear_star_step ly.year hY

/-- lunar year 2024 has star index 2 (三碧, "star three") -/
theorem lunarYear_star_2024 (a1 : Int) (ly : Gen.Fn.LunarYear)
    (hg : ly.ganIndex = (ly.year - 4) % 10) (hz : ly.zhiIndex = (ly.year - 4) % 12)
    (ha1 : a1 = Model.ganZhiIndex ly.ganIndex ly.zhiIndex) (hy : ly.year = 2024) :
    Gen.Fn.calendar_LunarYear_GetNineStar a1 ly = .ok ⟨2⟩ := by
  rw [lunarYear_getNineStar_eq a1 ly hg hz ha1, hy, Model.star_2024]

/-- fully concrete: the struct `NewLunarYear(2024)` builds (gan 0 = 甲, zhi 4 = 辰, 60-cycle
position 40) -/
theorem lunarYear_star_2024' :
    Gen.Fn.calendar_LunarYear_GetNineStar 40 ⟨2024, 0, 4⟩ = .ok ⟨2⟩ :=
  lunarYear_star_closed' ⟨2024, 0, 4⟩ (by decide) (by decide) (by decide)


end FnE2E
