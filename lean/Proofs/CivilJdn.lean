/-
The civil day number `jdn`: month and year lengths as differences of first-of-month day numbers,
the lexicographic order on dates as the order of day numbers, and `fromJdn` as its inverse.
-/
import Model.Civil
-- the theorems that restrict years to `≥ 1` do so for the Go code; their proofs do not use it
set_option linter.unusedVariables false
namespace Model

theorem cases12 (a m : Int) (h1 : a ≤ m) (h2 : m ≤ a + 11) :
    m = a ∨ m = a + 1 ∨ m = a + 2 ∨ m = a + 3 ∨ m = a + 4 ∨ m = a + 5 ∨ m = a + 6 ∨ m = a + 7 ∨
      m = a + 8 ∨ m = a + 9 ∨ m = a + 10 ∨ m = a + 11 := by
  omega

theorem jdn_eq_step (y m d : Int) :
    jdn y m d =
      (1461 * ((if m ≤ 2 then y - 1 else y) + 4716)) / 4
        + (306001 * ((if m ≤ 2 then m + 12 else m) + 1)) / 10000 + d
        + (if y * 372 + m * 31 + d ≥ 588829 then
            2 - (if m ≤ 2 then y - 1 else y) / 100 + (if m ≤ 2 then y - 1 else y) / 100 / 4
           else 0) - 1524 := by
  unfold jdn
  by_cases h : y * 372 + m * 31 + d ≥ 588829 <;> simp [h]

theorem isLeapYear_eq (y : Int) :
    isLeapYear y = true ↔
      (if y < 1600 then y % 4 = 0 else (y % 4 = 0 ∧ y % 100 ≠ 0) ∨ y % 400 = 0) := by
  unfold isLeapYear
  split <;> simp

theorem isLeapYear_iff (y : Int) :
    isLeapYear y = true ↔ y % 4 = 0 ∧ (1600 ≤ y → y % 100 = 0 → y % 400 = 0) := by
  rw [isLeapYear_eq]
  split <;> omega

theorem daysOfMonth_eq (y m : Int) (hm1 : 1 ≤ m) (hm : m ≤ 12) :
    daysOfMonth y m =
      if y = 1582 ∧ m = 10 then 21
      else if m = 2 then (if isLeapYear y then 29 else 28)
      else if m = 4 ∨ m = 6 ∨ m = 9 ∨ m = 11 then 30 else 31 := by
  unfold daysOfMonth
  rcases cases12 1 m hm1 hm with rfl | rfl | rfl | rfl | rfl | rfl | rfl | rfl | rfl | rfl | rfl | rfl <;>
    simp [baseDaysOfMonth]

theorem daysOfMonth_bounds (y m : Int) (hm1 : 1 ≤ m) (hm : m ≤ 12) :
    21 ≤ daysOfMonth y m ∧ daysOfMonth y m ≤ 31 := by
  rw [daysOfMonth_eq y m hm1 hm]
  cases isLeapYear y <;> omega

theorem daysOfMonth_ge28 (y m : Int) (hm1 : 1 ≤ m) (hm : m ≤ 12) (h : ¬ (y = 1582 ∧ m = 10)) :
    28 ≤ daysOfMonth y m ∧ daysOfMonth y m ≤ 31 := by
  rw [daysOfMonth_eq y m hm1 hm, if_neg h]
  cases isLeapYear y <;> omega

theorem validYmd_iff_step (y m d : Int) :
    validYmd y m d = true ↔
      (1 ≤ m ∧ m ≤ 12 ∧ 1 ≤ d ∧ d ≤ 31 ∧
        (if y = 1582 ∧ m = 10 then ¬ (4 < d ∧ d < 15) else d ≤ daysOfMonth y m)) := by
  unfold validYmd
  split
  · simp [Bool.and_eq_true, decide_eq_true_eq, and_assoc]
    intros
    omega
  · simp [Bool.and_eq_true, decide_eq_true_eq, and_assoc]

theorem valid_parts_ymd (y m d : Int) (hv : validYmd y m d = true) (h : ¬ (y = 1582 ∧ m = 10)) :
    1 ≤ m ∧ m ≤ 12 ∧ 1 ≤ d ∧ d ≤ 31 ∧ d ≤ daysOfMonth y m := by
  rw [validYmd_iff_step] at hv
  obtain ⟨a, b, c, e, f⟩ := hv
  rw [if_neg h] at f
  exact ⟨a, b, c, e, f⟩

theorem quarter_step (y : Int) :
    1461 * (y + 4716) / 4 = 1461 * (y - 1 + 4716) / 4 + (if y % 4 = 0 then 366 else 365) := by
  have h : y % 4 = 0 ∨ y % 4 = 1 ∨ y % 4 = 2 ∨ y % 4 = 3 := by omega
  rcases h with h | h | h | h <;> simp [h] <;> omega

theorem jdn_feb_succ (y : Int) : jdn y 3 1 = jdn y 2 1 + daysOfMonth y 2 := by
  simp [jdn_eq_step, daysOfMonth, baseDaysOfMonth, isLeapYear_eq]
  have h1 := quarter_step y
  repeat' split
  all_goals omega

/-- In the model (`Int` division is Euclidean, hence periodic) the month-length identities hold for
every year, not only `y ≥ 1`. -/
theorem jdn_month_succ_all (y m : Int) (hm1 : 1 ≤ m) (hm : m ≤ 11) :
    jdn y (m + 1) 1 = jdn y m 1 + daysOfMonth y m := by
  rcases cases12 1 m hm1 (by omega) with rfl | rfl | rfl | rfl | rfl | rfl | rfl | rfl | rfl | rfl | rfl | rfl
  case inr.inl => exact jdn_feb_succ y
  all_goals simp [jdn_eq_step, daysOfMonth, baseDaysOfMonth, isLeapYear_eq]
  all_goals (repeat' split)
  all_goals omega

/-- consecutive first-of-month day numbers differ by the month length (Oct 1582 has 21 days) -/
theorem jdn_month_succ (y m : Int) (hy : 1 ≤ y) (hm1 : 1 ≤ m) (hm : m ≤ 11) :
    jdn y (m + 1) 1 = jdn y m 1 + daysOfMonth y m := jdn_month_succ_all y m hm1 hm

theorem jdn_year_succ_all (y : Int) : jdn (y + 1) 1 1 = jdn y 12 1 + daysOfMonth y 12 := by
  simp [jdn_eq_step, daysOfMonth, baseDaysOfMonth]
  repeat' split
  all_goals omega

theorem jdn_year_succ (y : Int) (hy : 1 ≤ y) : jdn (y + 1) 1 1 = jdn y 12 1 + daysOfMonth y 12 :=
  jdn_year_succ_all y

theorem daysInYearLoop_eq (k : Nat) : ∀ (y i : Int), 1 ≤ i → i + (k : Int) ≤ 12 →
    daysInYearLoop k y i = jdn y (i + k) 1 - jdn y i 1 := by
  induction k with
  | zero => intro y i h1 h2; simp [daysInYearLoop]
  | succ k ih =>
    intro y i h1 h2
    simp only [daysInYearLoop]
    rw [ih y (i + 1) (by omega) (by omega)]
    have := jdn_month_succ_all y i h1 (by omega)
    rw [show i + ((k + 1 : Nat) : Int) = i + 1 + (k : Int) by omega]
    omega

theorem daysOfYear_eq_sum (y : Int) : daysInYearLoop 12 y 1 = daysOfYear y := by
  simp only [daysInYearLoop, daysOfMonth, baseDaysOfMonth, daysOfYear]
  by_cases h : y = 1582
  · subst h; decide
  · by_cases hl : isLeapYear y <;> simp [h, hl]

theorem jdn_year_len_all (y : Int) : jdn (y + 1) 1 1 = jdn y 1 1 + daysOfYear y := by
  have h : daysInYearLoop 11 y 1 = jdn y 12 1 - jdn y 1 1 :=
    daysInYearLoop_eq 11 y 1 (by omega) (by omega)
  rw [← daysOfYear_eq_sum, jdn_year_succ_all]
  simp only [daysInYearLoop, Int.reduceAdd] at h ⊢
  omega

theorem jdn_year_len (y : Int) (hy : 1 ≤ y) : jdn (y + 1) 1 1 = jdn y 1 1 + daysOfYear y :=
  jdn_year_len_all y

/-- day number of `(y, m, d)` where `d` is the (possibly out-of-range, and in October 1582
compressed) day of month: the coordinate in which the `NextDay` loops move -/
def lin (y m d : Int) : Int := jdn y m 1 + (d - 1)

/-- `NextDay` closes the gap of October 1582 up before it walks: days 15..31 become 5..21 -/
def comp (y m d : Int) : Int := if y = 1582 ∧ m = 10 ∧ d > 4 then d - 10 else d

theorem jdn_lin_of_g (y m d : Int)
    (hg : (y * 372 + m * 31 + d ≥ 588829) ↔ (y * 372 + m * 31 + 1 ≥ 588829)) :
    jdn y m d = jdn y m 1 + (d - 1) := by
  rw [jdn_eq_step, jdn_eq_step]
  simp only [hg]
  repeat' split
  all_goals omega

theorem jdn_lin_month (y m d : Int) (hm1 : 1 ≤ m) (hm : m ≤ 12) (hd1 : 1 ≤ d) (hd : d ≤ 31)
    (h : ¬ (y = 1582 ∧ m = 10)) : jdn y m d = jdn y m 1 + (d - 1) :=
  jdn_lin_of_g y m d (by omega)

theorem jdn_comp (y m d : Int) (hv : validYmd y m d = true) :
    jdn y m d = lin y m (comp y m d) ∧ 1 ≤ comp y m d ∧ comp y m d ≤ daysOfMonth y m := by
  rw [validYmd_iff_step] at hv
  obtain ⟨hm1, hm, hd1, hd, hx⟩ := hv
  unfold lin comp
  by_cases hO : y = 1582 ∧ m = 10
  · obtain ⟨rfl, rfl⟩ := hO
    simp at hx
    simp [jdn_eq_step, daysOfMonth]
    repeat' split
    all_goals omega
  · simp [hO] at hx
    have hc : ¬ (y = 1582 ∧ m = 10 ∧ d > 4) := fun h => hO ⟨h.1, h.2.1⟩
    simp only [hc, if_false]
    refine ⟨jdn_lin_of_g y m d (by omega), hd1, hx⟩

theorem jdn_in_month (y m d : Int) (hv : validYmd y m d = true) :
    jdn y m 1 ≤ jdn y m d ∧ jdn y m d < jdn y m 1 + daysOfMonth y m := by
  obtain ⟨hj, hc1, hc2⟩ := jdn_comp y m d hv
  rw [hj]; unfold lin; omega

theorem monthStart_mono (k : Nat) : ∀ (y m : Int), 1 ≤ m → m + (k : Int) ≤ 12 →
    jdn y m 1 + 21 * (k : Int) ≤ jdn y (m + k) 1 := by
  induction k with
  | zero => intro y m h1 h2; simp
  | succ k ih =>
    intro y m h1 h2
    have h := ih y (m + 1) (by omega) (by omega)
    have hs := jdn_month_succ_all y m h1 (by omega)
    have hb := daysOfMonth_bounds y m h1 (by omega)
    rw [show m + ((k + 1 : Nat) : Int) = m + 1 + (k : Int) by omega]
    omega

theorem monthStart_le (y m m' : Int) (h1 : 1 ≤ m) (h2 : m ≤ m') (h3 : m' ≤ 12) :
    jdn y m 1 ≤ jdn y m' 1 := by
  have h := monthStart_mono (m' - m).toNat y m h1 (by omega)
  rw [show m + ((m' - m).toNat : Int) = m' by omega] at h
  omega

theorem yearStart_mono (k : Nat) : ∀ (y : Int), jdn y 1 1 + 355 * (k : Int) ≤ jdn (y + k) 1 1 := by
  induction k with
  | zero => intro y; simp
  | succ k ih =>
    intro y
    have h := ih (y + 1)
    have hs := jdn_year_len_all y
    have hb : 355 ≤ daysOfYear y := by unfold daysOfYear; repeat' split <;> omega
    rw [show y + ((k + 1 : Nat) : Int) = y + 1 + (k : Int) by omega]
    omega

theorem yearStart_le (y y' : Int) (h : y ≤ y') : jdn y 1 1 ≤ jdn y' 1 1 := by
  have h := yearStart_mono (y' - y).toNat y
  rw [show y + ((y' - y).toNat : Int) = y' by omega] at h
  omega

theorem monthEnd_le_yearEnd (y m : Int) (h1 : 1 ≤ m) (h2 : m ≤ 12) :
    jdn y m 1 + daysOfMonth y m ≤ jdn (y + 1) 1 1 := by
  have hy := jdn_year_succ_all y
  by_cases h : m = 12
  · subst h; omega
  · have hs := jdn_month_succ_all y m h1 (by omega)
    have := monthStart_le y (m + 1) 12 (by omega) (by omega) (by omega)
    have hb := daysOfMonth_bounds y 12 (by omega) (by omega)
    omega

theorem comp_lt (y m d d' : Int) (hv : validYmd y m d = true) (hv' : validYmd y m d' = true)
    (h : d < d') : comp y m d < comp y m d' := by
  obtain ⟨_, _, _, _, hx⟩ := (validYmd_iff_step y m d).1 hv
  obtain ⟨_, _, _, _, hx'⟩ := (validYmd_iff_step y m d').1 hv'
  unfold comp
  by_cases hO : y = 1582 ∧ m = 10
  · rw [if_pos hO] at hx hx'
    omega
  · omega

theorem lex_jdn_lt (y m d y' m' d' : Int) (hv : validYmd y m d = true) (hv' : validYmd y' m' d' = true)
    (h : y < y' ∨ (y = y' ∧ (m < m' ∨ (m = m' ∧ d < d')))) : jdn y m d < jdn y' m' d' := by
  obtain ⟨a1, a2⟩ := jdn_in_month y m d hv
  obtain ⟨b1, b2⟩ := jdn_in_month y' m' d' hv'
  obtain ⟨hm1, hm, _, _, _⟩ := (validYmd_iff_step y m d).1 hv
  obtain ⟨hm1', hm', _, _, _⟩ := (validYmd_iff_step y' m' d').1 hv'
  rcases h with h | ⟨rfl, h | ⟨rfl, h⟩⟩
  · have e1 := monthEnd_le_yearEnd y m hm1 hm
    have e2 := yearStart_le (y + 1) y' (by omega)
    have e3 := monthStart_le y' 1 m' (by omega) hm1' hm'
    omega
  · have hs := jdn_month_succ_all y m hm1 (by omega)
    have e3 := monthStart_le y (m + 1) m' (by omega) (by omega) hm'
    omega
  · obtain ⟨hj, _, _⟩ := jdn_comp y m d hv
    obtain ⟨hj', _, _⟩ := jdn_comp y m d' hv'
    have := comp_lt y m d d' hv hv' h
    rw [hj, hj']; unfold lin; omega

theorem jdn_inj_all (y m d y' m' d' : Int) (hv : validYmd y m d = true) (hv' : validYmd y' m' d' = true)
    (h : jdn y m d = jdn y' m' d') : y = y' ∧ m = m' ∧ d = d' := by
  have h1 := lex_jdn_lt _ _ _ _ _ _ hv hv'
  have h2 := lex_jdn_lt _ _ _ _ _ _ hv' hv
  omega

/-- hence the day number is injective on valid dates -/
theorem jdn_inj (y m d y' m' d' : Int) (hy : 1 ≤ y) (hy' : 1 ≤ y')
    (hv : validYmd y m d = true) (hv' : validYmd y' m' d' = true)
    (h : jdn y m d = jdn y' m' d') : (y, m, d) = (y', m', d') := by
  obtain ⟨rfl, rfl, rfl⟩ := jdn_inj_all _ _ _ _ _ _ hv hv' h
  rfl

theorem jdn_lt_iff_lex_all (y m d y' m' d' : Int) (hv : validYmd y m d = true) (hv' : validYmd y' m' d' = true) :
    jdn y m d < jdn y' m' d' ↔ (y < y' ∨ (y = y' ∧ (m < m' ∨ (m = m' ∧ d < d')))) := by
  refine ⟨fun hlt => ?_, lex_jdn_lt _ _ _ _ _ _ hv hv'⟩
  have h2 := lex_jdn_lt _ _ _ _ _ _ hv' hv
  by_cases e : y = y' ∧ m = m' ∧ d = d'
  · obtain ⟨rfl, rfl, rfl⟩ := e; omega
  · omega

/-- the lexicographic (year, month, day) order is the day-number order -/
theorem jdn_lt_iff_lex (y m d y' m' d' : Int) (hv : validYmd y m d = true) (hv' : validYmd y' m' d' = true)
    (hy : 1 ≤ y) (hy' : 1 ≤ y') :
    jdn y m d < jdn y' m' d' ↔ (y < y' ∨ (y = y' ∧ (m < m' ∨ (m = m' ∧ d < d')))) :=
  jdn_lt_iff_lex_all y m d y' m' d' hv hv'

theorem jdn_lower (y m d : Int) (hy : 1 ≤ y) (hv : validYmd y m d = true) : 1721424 ≤ jdn y m d := by
  obtain ⟨hm1, hm, _⟩ := (validYmd_iff_step y m d).1 hv
  have h1 := yearStart_le 1 y hy
  have h2 := monthStart_le y 1 m (by omega) hm1 hm
  have h3 := (jdn_in_month y m d hv).1
  have h0 : jdn 1 1 1 = 1721424 := by decide
  omega

/-! ## `fromJdn` inverts `jdn`

`fromJdn n` is computed outright to be a valid date with day number `n`; that it also recovers every
valid date then follows from injectivity. -/

/-- March-based year and month, as `GetJulianDay` forms them from a civil `(y, m)` -/
def mY (y m : Int) : Int := if m ≤ 2 then y - 1 else y
def mM (m : Int) : Int := if m ≤ 2 then m + 12 else m

/-- the day count of `GetJulianDay` before the century correction, on March-based `Y` and `M ∈ 3..14` -/
def fwdCore (Y M d : Int) : Int :=
  (1461 * (Y + 4716)) / 4 + (306001 * (M + 1)) / 10000 + d

theorem jdn_eq (y m d : Int) :
    jdn y m d = fwdCore (mY y m) (mM m) d - 1524 +
      (if y * 372 + m * 31 + d ≥ 588829 then 2 - mY y m / 100 + mY y m / 100 / 4 else 0) := by
  unfold jdn fwdCore mY mM
  simp only [decide_eq_true_eq]
  omega

/-- the corrected day count that `fromJdn` decodes -/
def corr (n : Int) : Int :=
  (if n ≥ 2299161 then n + 1 + (4 * n - 7468865) / 146097 - (4 * n - 7468865) / 146097 / 4
  else n) + 1524

/-- the decoding of a corrected day count into (year, month, day) -/
def invCore (d2 : Int) : Int × Int × Int :=
  let K := (20 * d2 - 2442) / 7305
  let d3 := d2 - (1461 * K) / 4
  let Mo := (1000 * d3) / 30601
  let day := d3 - (30601 * Mo) / 1000
  if Mo > 13 then (K - 4715, Mo - 13, day) else (K - 4716, Mo - 1, day)

theorem fromJdn_eq (n : Int) : fromJdn n = invCore (corr n) := rfl

/-- Julian-rule validity of a day of month, in March-based terms -/
def okDay (Y M d : Int) : Prop :=
  1 ≤ d ∧ d ≤ 31 ∧ ((M = 4 ∨ M = 6 ∨ M = 9 ∨ M = 11) → d ≤ 30) ∧
  (M = 14 → d ≤ 29) ∧ (M = 14 → (Y + 1) % 4 ≠ 0 → d ≤ 28)

/-- Meeus' month terms `⌊30.6001 k⌋` (forward) and `⌊30.601 k⌋` (inverse) are both `⌊153 k / 5⌋` on
the range used; in that form `omega` sees the month lengths without a case split -/
theorem monthTerm_fwd (k : Int) (h0 : 0 ≤ k) (h : k ≤ 16) : 306001 * k / 10000 = 153 * k / 5 := by
  omega

theorem monthTerm_inv (k : Int) (h0 : 0 ≤ k) (h : k ≤ 16) : 30601 * k / 1000 = 153 * k / 5 := by
  omega

/-- the remainder `r` after taking out the year quotient `K`: `123 ≤ r ≤ 488`, and `r = 488`
(29 February) only when `K % 4 = 3`; stated with `K % 4` inside the bounds because a conclusion
`K % 4 = 3` costs `omega` twenty times as much -/
theorem year_rem (d2 : Int) :
    489 + (20 * d2 - 2442) / 7305 % 4 ≤ 4 * (d2 - 1461 * ((20 * d2 - 2442) / 7305) / 4) ∧
    4 * (d2 - 1461 * ((20 * d2 - 2442) / 7305) / 4) ≤ 1949 + (20 * d2 - 2442) / 7305 % 4 := by
  omega

theorem invCore_spec (d2 y m d : Int) (h : invCore d2 = (y, m, d)) :
    1 ≤ m ∧ m ≤ 12 ∧ okDay (mY y m) (mM m) d ∧ fwdCore (mY y m) (mM m) d = d2 := by
  have hr := year_rem d2
  unfold invCore at h
  simp only at h
  generalize (20 * d2 - 2442) / 7305 = K at *
  generalize hr' : d2 - 1461 * K / 4 = r at *
  have hb : 4 ≤ 1000 * r / 30601 ∧ 1000 * r / 30601 ≤ 15 := by omega
  have e1 := monthTerm_inv _ (by omega) (by omega : 1000 * r / 30601 ≤ 16)
  have e2 := monthTerm_fwd _ (by omega) (by omega : 1000 * r / 30601 ≤ 16)
  generalize hMo : 1000 * r / 30601 = Mo at *
  unfold okDay fwdCore mY mM
  split at h <;> (rw [Prod.mk.injEq, Prod.mk.injEq] at h; obtain ⟨rfl, rfl, rfl⟩ := h; omega)

theorem fwdCore_bounds (Y M d : Int) (hM : 3 ≤ M) (hM' : M ≤ 14) (hd : okDay Y M d) :
    36525 * (Y / 100) + 1722519 + 123 ≤ fwdCore Y M d ∧
    fwdCore Y M d ≤ 36525 * (Y / 100) + 1722519 + 36647 ∧
    (fwdCore Y M d = 36525 * (Y / 100) + 1722519 + 36647 ↔ M = 14 ∧ d = 29 ∧ Y % 100 = 99) := by
  have := monthTerm_fwd (M + 1) (by omega) (by omega)
  unfold okDay at hd
  unfold fwdCore
  omega

theorem gregC_bwd (n Y M d : Int) (hM : 3 ≤ M) (hM' : M ≤ 14) (hd : okDay Y M d)
    (hD : fwdCore Y M d =
      n + 1 + (4 * n - 7468865) / 146097 - (4 * n - 7468865) / 146097 / 4 + 1524) :
    Y / 100 = (4 * n - 7468865) / 146097 + 4 ∧
    (M = 14 → d = 29 → (Y + 1) % 100 = 0 → (Y + 1) % 400 = 0) := by
  have hb := fwdCore_bounds Y M d hM hM' hd
  generalize fwdCore Y M d = D at *
  generalize hc : (4 * n - 7468865) / 146097 = c at *
  have hA : Y / 100 = c + 4 := by omega
  refine ⟨hA, fun h14 h29 h100 => ?_⟩
  have hD' := hb.2.2.2 ⟨h14, h29, by omega⟩
  omega

theorem valid_of_ok (y m d : Int) (h1 : 1 ≤ m) (h2 : m ≤ 12) (hd : okDay (mY y m) (mM m) d)
    (hl : y < 1600 ∨ (m = 2 → d = 29 → y % 100 = 0 → y % 400 = 0))
    (hg : y = 1582 → m = 10 → ¬ (4 < d ∧ d < 15)) : validYmd y m d = true := by
  rw [validYmd_iff_step, daysOfMonth_eq y m h1 h2]
  simp only [isLeapYear_iff]
  unfold okDay mY mM at hd
  refine ⟨h1, h2, hd.1, hd.2.1, ?_⟩
  by_cases hm : m ≤ 2 <;> simp only [hm, if_true, if_false] at hd <;> split <;> omega

/-- 1582-10-04 has core count 2300684 and key `y·372 + m·31 + d` 588818, 1582-10-15 has 2300695 and
588829; the key is the same in March-based terms (`12 · 31 = 372`), and only year 1582 needs the months -/
theorem core_thresholds (Y M d : Int) (h1 : 3 ≤ M) (h2 : M ≤ 14) (h3 : 1 ≤ d) (h4 : d ≤ 31) :
    (fwdCore Y M d ≤ 2300684 → Y * 372 + M * 31 + d ≤ 588818) ∧
    (2300695 ≤ fwdCore Y M d → 588829 ≤ Y * 372 + M * 31 + d) := by
  unfold fwdCore
  have := monthTerm_fwd (M + 1) (by omega) (by omega)
  by_cases hY : Y = 1582
  · subst hY
    rcases cases12 3 M h1 h2 with rfl | rfl | rfl | rfl | rfl | rfl | rfl | rfl | rfl | rfl | rfl | rfl <;>
      omega
  · omega

theorem jdn_fromJdn_all (n : Int) :
    validYmd (fromJdn n).1 (fromJdn n).2.1 (fromJdn n).2.2 = true ∧
    jdn (fromJdn n).1 (fromJdn n).2.1 (fromJdn n).2.2 = n := by
  obtain ⟨y, m, d, e⟩ : ∃ y m d, fromJdn n = (y, m, d) := ⟨_, _, _, rfl⟩
  obtain ⟨h1, h2, hd, hD⟩ := invCore_spec _ y m d (fromJdn_eq n ▸ e)
  obtain ⟨d1, d31, -⟩ := id hd
  have hM : 3 ≤ mM m ∧ mM m ≤ 14 := by unfold mM; omega
  have ht := core_thresholds (mY y m) (mM m) d hM.1 hM.2 d1 d31
  rw [show mY y m * 372 + mM m * 31 = y * 372 + m * 31 by unfold mY mM; omega] at ht
  rw [e]
  show validYmd y m d = true ∧ jdn y m d = n
  rw [jdn_eq, hD]
  unfold corr at hD ⊢
  by_cases hn : n ≥ 2299161
  · rw [if_pos hn] at hD ⊢
    obtain ⟨hA, hL⟩ := gregC_bwd n _ _ _ hM.1 hM.2 hd hD
    have hg : y * 372 + m * 31 + d ≥ 588829 := ht.2 (by omega)
    refine ⟨valid_of_ok y m d h1 h2 hd (Or.inr fun h2 h29 => ?_) (by omega), ?_⟩
    · have := hL (by unfold mM; omega) h29
      unfold mY at this
      omega
    · rw [if_pos hg, hA]; omega
  · rw [if_neg hn] at hD ⊢
    have hk : y * 372 + m * 31 + d ≤ 588818 := ht.1 (by omega)
    exact ⟨valid_of_ok y m d h1 h2 hd (Or.inl (by omega)) (by omega),
      by rw [if_neg (by omega)]; omega⟩

/-- every day number from 0001-01-01 (JDN 1721424) on maps to a valid date whose day number it is; no upper bound -/
theorem jdn_fromJdn (n : Int) (h : 1721424 ≤ n) :
    validYmd (fromJdn n).1 (fromJdn n).2.1 (fromJdn n).2.2 = true ∧
    1 ≤ (fromJdn n).1 ∧
    jdn (fromJdn n).1 (fromJdn n).2.1 (fromJdn n).2.2 = n := by
  obtain ⟨hv, hj⟩ := jdn_fromJdn_all n
  refine ⟨hv, Int.not_lt.1 fun hy => ?_, hj⟩
  have := lex_jdn_lt _ _ _ 1 1 1 hv (by decide) (Or.inl hy)
  have h0 : jdn 1 1 1 = 1721424 := by decide
  omega

theorem fromJdn_jdn_all (y m d : Int) (hv : validYmd y m d = true) : fromJdn (jdn y m d) = (y, m, d) := by
  obtain ⟨hv', hj⟩ := jdn_fromJdn_all (jdn y m d)
  obtain ⟨e1, e2, e3⟩ := jdn_inj_all _ _ _ y m d hv' hv hj
  exact Prod.ext e1 (Prod.ext e2 e3)

/-- a valid date converts to its day number and back unchanged; no upper bound on the year (`hy` is not needed) -/
theorem fromJdn_jdn (y m d : Int) (hy : 1 ≤ y) (hv : validYmd y m d = true) :
    fromJdn (jdn y m d) = (y, m, d) := fromJdn_jdn_all y m d hv

/-- the calendar switch: the day after 1582-10-04 is 1582-10-15 -/
theorem jdn_gap : jdn 1582 10 15 = jdn 1582 10 4 + 1 := by decide

end Model

#print axioms Model.jdn_fromJdn
#print axioms Model.fromJdn_jdn
#print axioms Model.jdn_lower
#print axioms Model.jdn_inj
#print axioms Model.jdn_gap
#print axioms Model.jdn_month_succ
#print axioms Model.jdn_year_succ
#print axioms Model.jdn_year_len
#print axioms Model.jdn_lt_iff_lex
