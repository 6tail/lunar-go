/-
Fixed-width renderings: `strings.Compare` on `%04d-%02d-%02d` (and its long form, and `%02d:%02d`) is the
numeric order of the fields while they fit their widths, and the renderings parse back.
-/
import Model.Fmt
namespace Model

theorem cmpChars_lt_iff (a b : List Char) : cmpChars a b = .lt ↔ a < b := by
  induction a generalizing b with
  | nil => cases b <;> simp [cmpChars]
  | cons x xs ih =>
    cases b with
    | nil => simp [cmpChars]
    | cons y ys =>
      rw [cmpChars, List.cons_lt_cons_iff, ← ih]
      by_cases h1 : x < y
      · simp [h1]
      · by_cases h2 : y < x
        · have : x ≠ y := by rintro rfl; exact h1 h2
          simp [h1, h2, this]
        · simp [Char.le_antisymm (Char.not_lt.1 h2) (Char.not_lt.1 h1)]

theorem cmpChars_eq_iff (a b : List Char) : cmpChars a b = .eq ↔ a = b := by
  induction a generalizing b with
  | nil => cases b <;> simp [cmpChars]
  | cons x xs ih =>
    cases b with
    | nil => simp [cmpChars]
    | cons y ys =>
      rw [cmpChars]
      by_cases h1 : x < y
      · have : x ≠ y := fun e => Char.lt_irrefl _ (e ▸ h1)
        simp [h1, this]
      · by_cases h2 : y < x
        · have : x ≠ y := fun e => h1 (e ▸ h2)
          simp [h1, h2, this]
        · simp [h1, h2, ih, Char.le_antisymm (Char.not_lt.1 h2) (Char.not_lt.1 h1)]

theorem cmpChars_self (l : List Char) : cmpChars l l = .eq := (cmpChars_eq_iff l l).2 rfl

theorem strGe_self (l : List Char) : strGe l l = true := by
  unfold strGe; rw [(cmpChars_eq_iff l l).2 rfl]; rfl

section
variable {a b : List Char} {x y : Int}

/-! Where two strings compare like two integers (`cmp_toYmd`, `cmp_toYmdHms`, `cmp_fmtHm`), the four string
tests of the Go code are the four integer comparisons. -/

theorem strLt_of_cmp (h : cmpChars a b = compare x y) : strLt a b = decide (x < y) := by
  rw [strLt, h, Bool.eq_iff_iff, beq_iff_eq, decide_eq_true_iff, Int.compare_eq_lt]

theorem strGt_of_cmp (h : cmpChars a b = compare x y) : strGt a b = decide (y < x) := by
  rw [strGt, h, Bool.eq_iff_iff, beq_iff_eq, decide_eq_true_iff, Int.compare_eq_gt]

theorem strGe_of_cmp (h : cmpChars a b = compare x y) : strGe a b = decide (y ≤ x) := by
  rw [strGe, h, Bool.eq_iff_iff, bne_iff_ne, decide_eq_true_iff, Ne, Int.compare_eq_lt, Int.not_lt]

theorem strLe_of_cmp (h : cmpChars a b = compare x y) : strLe a b = decide (x ≤ y) := by
  rw [strLe, h, Bool.eq_iff_iff, bne_iff_ne, decide_eq_true_iff, Ne, Int.compare_eq_gt, Int.not_lt]

end

theorem cmpChars_append (a b x y : List Char) (h : a.length = b.length) :
    cmpChars (a ++ x) (b ++ y) = (cmpChars a b).then (cmpChars x y) := by
  induction a generalizing b with
  | nil =>
    cases b with
    | nil => simp [cmpChars]
    | cons _ _ => simp at h
  | cons c t ih =>
    cases b with
    | nil => simp at h
    | cons d u =>
      simp only [List.length_cons, Nat.add_right_cancel_iff] at h
      simp only [List.cons_append, cmpChars]
      by_cases h1 : c < d
      · simp [h1]
      · by_cases h2 : d < c
        · simp [h1, h2]
        · simp [h1, h2, ih u h]

/-- an `Ordering` is known by when it is `lt` and when it is `gt`; with `Ordering.then_eq_lt` and
`compare_eq_lt` and their like this turns an equation between comparisons into arithmetic -/
theorem ordering_ext : ∀ o o' : Ordering, o = o' ↔ (o = .lt ↔ o' = .lt) ∧ (o = .gt ↔ o' = .gt) := by
  decide

theorem digitChar_mod (d : Nat) : digitChar (d % 10) = digitChar d := by
  simp [digitChar]

theorem digitChar_lt_fin : ∀ a b : Fin 10, (digitChar a < digitChar b) ↔ a < b := by decide

theorem digitChar_lt (a b : Nat) (ha : a < 10) (hb : b < 10) :
    (digitChar a < digitChar b) ↔ a < b := by
  have := digitChar_lt_fin ⟨a, ha⟩ ⟨b, hb⟩
  simpa using this

theorem digitChar_parse_fin : ∀ a : Fin 10,
    ('0' ≤ digitChar a ∧ digitChar a ≤ '9') ∧ (digitChar a).toNat - 48 = a := by decide

theorem digitChar_range (d : Nat) : '0' ≤ digitChar d ∧ digitChar d ≤ '9' := by
  have := (digitChar_parse_fin ⟨d % 10, Nat.mod_lt _ (by decide)⟩).1
  simpa [digitChar_mod] using this

theorem digitChar_val (d : Nat) : (digitChar d).toNat - 48 = d % 10 := by
  have := (digitChar_parse_fin ⟨d % 10, Nat.mod_lt _ (by decide)⟩).2
  simpa [digitChar_mod] using this

theorem cmp_digit (a b : Nat) (ha : a < 10) (hb : b < 10) :
    cmpChars [digitChar a] [digitChar b] = compare a b := by
  simp only [cmpChars, digitChar_lt a b ha hb, digitChar_lt b a hb ha, Nat.compare_eq_ite_lt]

theorem fixedDigits_length (w n : Nat) : (fixedDigits w n).length = w := by
  induction w generalizing n with
  | zero => rfl
  | succ w ih => simp [fixedDigits, ih]

theorem compare_div10 (a b : Nat) :
    compare a b = (compare (a / 10) (b / 10)).then (compare (a % 10) (b % 10)) := by
  rw [ordering_ext]
  simp only [Ordering.then_eq_lt, Ordering.then_eq_gt, Nat.compare_eq_lt,
    Nat.compare_eq_gt, Nat.compare_eq_eq]
  omega

/-- for equal-width zero-padded decimal renderings, lexicographic order is numeric order (any width) -/
theorem cmp_fixedDigits (w a b : Nat) (ha : a < 10 ^ w) (hb : b < 10 ^ w) :
    cmpChars (fixedDigits w a) (fixedDigits w b) = compare a b := by
  induction w generalizing a b with
  | zero =>
    obtain rfl : a = 0 := by simpa using ha
    obtain rfl : b = 0 := by simpa using hb
    rfl
  | succ w ih =>
    rw [Nat.pow_succ] at ha hb
    simp only [fixedDigits]
    rw [cmpChars_append _ _ _ _ (by simp [fixedDigits_length]), ih _ _ (by omega) (by omega),
      cmp_digit _ _ (Nat.mod_lt _ (by decide)) (Nat.mod_lt _ (by decide)), ← compare_div10]

theorem padInt_eq (w : Nat) (x : Int) (h0 : 0 ≤ x) (h1 : x.toNat < 10 ^ w) :
    padInt w x = fixedDigits w x.toNat := by
  simp [padInt, padNat, h0, h1]

theorem compare_toNat (x y : Int) (hx : 0 ≤ x) (hy : 0 ≤ y) :
    compare x.toNat y.toNat = compare x y := by
  rw [ordering_ext]
  simp only [Nat.compare_eq_lt, Nat.compare_eq_gt, Int.compare_eq_lt, Int.compare_eq_gt]
  omega

theorem cmp_padInt (w : Nat) (x y : Int) (hx : 0 ≤ x ∧ x.toNat < 10 ^ w)
    (hy : 0 ≤ y ∧ y.toNat < 10 ^ w) : cmpChars (padInt w x) (padInt w y) = compare x y := by
  rw [padInt_eq w x hx.1 hx.2, padInt_eq w y hy.1 hy.2, cmp_fixedDigits w _ _ hx.2 hy.2,
    compare_toNat x y hx.1 hy.1]

theorem cmp_padInt_append (w : Nat) (x y : Int) (t u : List Char) (hx : 0 ≤ x ∧ x.toNat < 10 ^ w)
    (hy : 0 ≤ y ∧ y.toNat < 10 ^ w) :
    cmpChars (padInt w x ++ t) (padInt w y ++ u) = (compare x y).then (cmpChars t u) := by
  rw [cmpChars_append, cmp_padInt w x y hx hy]
  rw [padInt_eq w x hx.1 hx.2, padInt_eq w y hy.1 hy.2, fixedDigits_length, fixedDigits_length]

theorem cmpChars_cons_self (c : Char) (t u : List Char) : cmpChars (c :: t) (c :: u) = cmpChars t u := by
  simp [cmpChars, Char.lt_irrefl]

theorem compare_mul100 (q q' r r' : Int) (hr : 0 ≤ r ∧ r ≤ 99) (hr' : 0 ≤ r' ∧ r' ≤ 99) :
    compare (q * 100 + r) (q' * 100 + r') = (compare q q').then (compare r r') := by
  rw [ordering_ext]
  simp only [Ordering.then_eq_lt, Ordering.then_eq_gt, Int.compare_eq_lt,
    Int.compare_eq_gt, Int.compare_eq_eq]
  omega

/-- numeric key of a date-time -/
def key14 (s : Solar) : Int :=
  ((((s.year * 100 + s.month) * 100 + s.day) * 100 + s.hour) * 100 + s.minute) * 100 + s.second
def key8 (s : Solar) : Int := (s.year * 100 + s.month) * 100 + s.day

/-- fields fit their print width -/
def InWidth (s : Solar) : Prop :=
  0 ≤ s.year ∧ s.year ≤ 9999 ∧ 0 ≤ s.month ∧ s.month ≤ 99 ∧ 0 ≤ s.day ∧ s.day ≤ 99 ∧
  0 ≤ s.hour ∧ s.hour ≤ 99 ∧ 0 ≤ s.minute ∧ s.minute ≤ 99 ∧ 0 ≤ s.second ∧ s.second ≤ 99

/-- comparing the printed short forms = comparing (year, month, day) -/
theorem cmp_toYmd (s o : Solar) (hs : InWidth s) (ho : InWidth o) :
    cmpChars s.toYmd o.toYmd = compare (key8 s) (key8 o) := by
  obtain ⟨a1, a2, a3, a4, a5, a6, -⟩ := hs
  obtain ⟨b1, b2, b3, b4, b5, b6, -⟩ := ho
  simp only [Solar.toYmd, key8, List.append_assoc, List.cons_append, List.nil_append]
  rw [cmp_padInt_append 4 _ _ _ _ ⟨a1, by omega⟩ ⟨b1, by omega⟩, cmpChars_cons_self,
    cmp_padInt_append 2 _ _ _ _ ⟨a3, by omega⟩ ⟨b3, by omega⟩, cmpChars_cons_self,
    cmp_padInt 2 _ _ ⟨a5, by omega⟩ ⟨b5, by omega⟩,
    compare_mul100 _ _ _ _ ⟨a5, a6⟩ ⟨b5, b6⟩, compare_mul100 _ _ _ _ ⟨a3, a4⟩ ⟨b3, b4⟩,
    Ordering.then_assoc]

/-- comparing the printed long forms = comparing the six fields lexicographically -/
theorem cmp_toYmdHms (s o : Solar) (hs : InWidth s) (ho : InWidth o) :
    cmpChars s.toYmdHms o.toYmdHms = compare (key14 s) (key14 o) := by
  obtain ⟨a1, a2, a3, a4, a5, a6, a7, a8, a9, a10, a11, a12⟩ := hs
  obtain ⟨b1, b2, b3, b4, b5, b6, b7, b8, b9, b10, b11, b12⟩ := ho
  simp only [Solar.toYmdHms, Solar.toYmd, key14, List.append_assoc, List.cons_append, List.nil_append]
  rw [cmp_padInt_append 4 _ _ _ _ ⟨a1, by omega⟩ ⟨b1, by omega⟩, cmpChars_cons_self,
    cmp_padInt_append 2 _ _ _ _ ⟨a3, by omega⟩ ⟨b3, by omega⟩, cmpChars_cons_self,
    cmp_padInt_append 2 _ _ _ _ ⟨a5, by omega⟩ ⟨b5, by omega⟩, cmpChars_cons_self,
    cmp_padInt_append 2 _ _ _ _ ⟨a7, by omega⟩ ⟨b7, by omega⟩, cmpChars_cons_self,
    cmp_padInt_append 2 _ _ _ _ ⟨a9, by omega⟩ ⟨b9, by omega⟩, cmpChars_cons_self,
    cmp_padInt 2 _ _ ⟨a11, by omega⟩ ⟨b11, by omega⟩,
    compare_mul100 _ _ _ _ ⟨a11, a12⟩ ⟨b11, b12⟩, compare_mul100 _ _ _ _ ⟨a9, a10⟩ ⟨b9, b10⟩,
    compare_mul100 _ _ _ _ ⟨a7, a8⟩ ⟨b7, b8⟩, compare_mul100 _ _ _ _ ⟨a5, a6⟩ ⟨b5, b6⟩,
    compare_mul100 _ _ _ _ ⟨a3, a4⟩ ⟨b3, b4⟩]
  simp only [Ordering.then_assoc]

/-- "%02d:%02d" order = (hour, minute) order, used by the 23:00 and two-hour-slot tests -/
theorem cmp_fmtHm (h1 m1 h2 m2 : Int) (a : 0 ≤ h1 ∧ h1 ≤ 99) (b : 0 ≤ m1 ∧ m1 ≤ 99) (c : 0 ≤ h2 ∧ h2 ≤ 99) (d : 0 ≤ m2 ∧ m2 ≤ 99) :
    cmpChars (fmtHm h1 m1) (fmtHm h2 m2) = compare (h1 * 100 + m1) (h2 * 100 + m2) := by
  simp only [fmtHm, List.append_assoc, List.cons_append, List.nil_append]
  rw [cmp_padInt_append 2 _ _ _ _ ⟨a.1, by omega⟩ ⟨c.1, by omega⟩, cmpChars_cons_self,
    cmp_padInt 2 _ _ ⟨b.1, by omega⟩ ⟨d.1, by omega⟩, compare_mul100 _ _ _ _ b d]

theorem toYmd_eq (s : Solar) (h : InWidth s) :
    s.toYmd = fixedDigits 4 s.year.toNat ++ ['-'] ++ fixedDigits 2 s.month.toNat ++ ['-'] ++
      fixedDigits 2 s.day.toNat := by
  obtain ⟨h1, h2, h3, h4, h5, h6, -⟩ := h
  simp only [Solar.toYmd, padInt_eq 4 _ h1 (by omega), padInt_eq 2 _ h3 (by omega),
    padInt_eq 2 _ h5 (by omega)]

theorem toYmdHms_eq (s : Solar) (h : InWidth s) :
    s.toYmdHms = s.toYmd ++ [' '] ++ fixedDigits 2 s.hour.toNat ++ [':'] ++
      fixedDigits 2 s.minute.toNat ++ [':'] ++ fixedDigits 2 s.second.toNat := by
  obtain ⟨-, -, -, -, -, -, h7, h8, h9, h10, h11, h12⟩ := h
  simp only [Solar.toYmdHms, padInt_eq 2 _ h7 (by omega), padInt_eq 2 _ h9 (by omega),
    padInt_eq 2 _ h11 (by omega)]

theorem toYmd_length (s : Solar) (h : InWidth s) : s.toYmd.length = 10 := by
  simp [toYmd_eq s h, fixedDigits_length]

theorem toYmdHms_length (s : Solar) (h : InWidth s) : s.toYmdHms.length = 19 := by
  simp [toYmdHms_eq s h, toYmd_length s h, fixedDigits_length]

theorem fixedDigits2_eq (n : Nat) : fixedDigits 2 n = [digitChar (n / 10 % 10), digitChar (n % 10)] := by
  simp [fixedDigits]

theorem fixedDigits4_eq (n : Nat) : fixedDigits 4 n =
    [digitChar (n / 10 / 10 / 10 % 10), digitChar (n / 10 / 10 % 10), digitChar (n / 10 % 10),
      digitChar (n % 10)] := by
  simp [fixedDigits]

theorem parseDigits2 (n : Nat) (h : n < 100) :
    parseDigits [digitChar (n / 10 % 10), digitChar (n % 10)] = some n := by
  simp only [parseDigits, List.foldl, digitChar_range, digitChar_val, and_self, if_true]
  congr 1
  omega

theorem parseDigits4 (n : Nat) (h : n < 10000) :
    parseDigits [digitChar (n / 10 / 10 / 10 % 10), digitChar (n / 10 / 10 % 10),
      digitChar (n / 10 % 10), digitChar (n % 10)] = some n := by
  simp only [parseDigits, List.foldl, digitChar_range, digitChar_val, and_self, if_true]
  congr 1
  omega

theorem parse_toYmd (s : Solar) (h : InWidth s) : parseYmd s.toYmd = some (s.year, s.month, s.day) := by
  rw [toYmd_eq s h]
  obtain ⟨a1, a2, a3, a4, a5, a6, -⟩ := h
  simp only [fixedDigits4_eq, fixedDigits2_eq, List.cons_append, List.nil_append, parseYmd,
    parseDigits4 s.year.toNat (by omega), parseDigits2 s.month.toNat (by omega),
    parseDigits2 s.day.toNat (by omega), Int.toNat_of_nonneg a1, Int.toNat_of_nonneg a3,
    Int.toNat_of_nonneg a5]

/-- the printed forms parse back to the same fields -/
theorem parse_toYmdHms (s : Solar) (h : InWidth s) : parseYmdHms s.toYmdHms = some s := by
  rw [toYmdHms_eq s h, toYmd_eq s h]
  obtain ⟨a1, a2, a3, a4, a5, a6, a7, a8, a9, a10, a11, a12⟩ := h
  simp only [fixedDigits4_eq, fixedDigits2_eq, List.cons_append, List.nil_append, parseYmdHms,
    parseDigits4 s.year.toNat (by omega), parseDigits2 s.month.toNat (by omega),
    parseDigits2 s.day.toNat (by omega), parseDigits2 s.hour.toNat (by omega),
    parseDigits2 s.minute.toNat (by omega), parseDigits2 s.second.toNat (by omega),
    Int.toNat_of_nonneg a1, Int.toNat_of_nonneg a3, Int.toNat_of_nonneg a5,
    Int.toNat_of_nonneg a7, Int.toNat_of_nonneg a9, Int.toNat_of_nonneg a11]

/-- hence printing is injective -/
theorem toYmdHms_inj (s o : Solar) (hs : InWidth s) (ho : InWidth o) (h : s.toYmdHms = o.toYmdHms) : s = o := by
  have h1 := parse_toYmdHms s hs
  rw [h, parse_toYmdHms o ho] at h1
  exact (Option.some.inj h1).symm

/-- the width bound is necessary: a five-digit year breaks the order -/
example : cmpChars (Solar.toYmd ⟨10000, 1, 1, 0, 0, 0⟩) (Solar.toYmd ⟨9999, 12, 31, 0, 0, 0⟩) = .lt := by decide

theorem width_bound_necessary :
    cmpChars (Solar.toYmd ⟨10000, 1, 1, 0, 0, 0⟩) (Solar.toYmd ⟨9999, 12, 31, 0, 0, 0⟩) = .lt := by decide

#print axioms width_bound_necessary
#print axioms fixedDigits_length
#print axioms cmp_fixedDigits
#print axioms toYmd_length
#print axioms toYmdHms_length
#print axioms cmp_toYmd
#print axioms cmp_toYmdHms
#print axioms parse_toYmdHms
#print axioms parse_toYmd
#print axioms toYmdHms_inj
#print axioms cmp_fmtHm

end Model
