/-
FnSDecoders — structural theorems about the packed-table decoders of the almanac in string mode
(`Gen.FnS.LunarUtil_GetDayYi/Ji/JiShen/XiongSha`, `LunarUtil_GetTimeYi/Ji`) and the accessors built on
them.  No hand model is involved: the decoders stay opaque (the packed tables are never unfolded),
what is proved is
  1. leap months read the record of the regular month of the same number,
  2. every accessor factors through its decoder applied to the accessor's defining inputs
     (and the congruence corollaries, and the agreement of the two routes to the hour lists),
  3. the decoders never return an empty list.
Helpers carry the prefix `sd_`.
-/
import Proofs.FnSBase
namespace FnSEq
open Gen.Fn (Err)
open Model.EightChar (pillarStr)

/-- `readPillar`, under the name the statements of this file use -/
abbrev sd_pillar (g z : Int) : Except Err String := readPillar g z

/-- `readPillar_eq` under that name, for `rw` (which does not see through the abbreviation) -/
theorem sd_pillar_ok (g z : Int) (g0 : -1 ≤ g) (g1 : g < 10) (z0 : -1 ≤ z) (z1 : z < 12) :
    sd_pillar g z = .ok (pillarStr g z) := readPillar_eq g z g0 g1 z0 z1

theorem sd_pillar_panic (g z : Int) (h : g < -1 ∨ 10 ≤ g ∨ z < -1 ∨ 12 ≤ z) :
    sd_pillar g z = .error .panic := readPillar_panic g z h

section
variable (l : Gen.FnS.Lunar)
theorem sd_yearInGanZhi : Gen.FnS.calendar_Lunar_GetYearInGanZhi l = sd_pillar l.yearGanIndex l.yearZhiIndex := rfl
theorem sd_yearInGanZhiByLiChun :
    Gen.FnS.calendar_Lunar_GetYearInGanZhiByLiChun l = sd_pillar l.yearGanIndexByLiChun l.yearZhiIndexByLiChun := rfl
theorem sd_yearInGanZhiExact :
    Gen.FnS.calendar_Lunar_GetYearInGanZhiExact l = sd_pillar l.yearGanIndexExact l.yearZhiIndexExact := rfl
theorem sd_dayInGanZhi : Gen.FnS.calendar_Lunar_GetDayInGanZhi l = sd_pillar l.dayGanIndex l.dayZhiIndex := rfl
theorem sd_dayInGanZhiExact :
    Gen.FnS.calendar_Lunar_GetDayInGanZhiExact l = sd_pillar l.dayGanIndexExact l.dayZhiIndexExact := rfl
theorem sd_dayInGanZhiExact2 :
    Gen.FnS.calendar_Lunar_GetDayInGanZhiExact2 l = sd_pillar l.dayGanIndexExact2 l.dayZhiIndexExact2 := rfl
theorem sd_monthInGanZhi : Gen.FnS.calendar_Lunar_GetMonthInGanZhi l = sd_pillar l.monthGanIndex l.monthZhiIndex := rfl
theorem sd_monthInGanZhiExact :
    Gen.FnS.calendar_Lunar_GetMonthInGanZhiExact l = sd_pillar l.monthGanIndexExact l.monthZhiIndexExact := rfl
theorem sd_timeInGanZhi : Gen.FnS.calendar_Lunar_GetTimeInGanZhi l = sd_pillar l.timeGanIndex l.timeZhiIndex := rfl
end

theorem sd_lunarTimeGanZhi (lt : Gen.FnS.LunarTime) :
    Gen.FnS.calendar_LunarTime_GetGanZhi lt = sd_pillar lt.ganIndex lt.zhiIndex := rfl

/-! ### 1. leap months read the record of the regular month of the same number

`LunarUtil_GetDayJiShen` / `GetDayXiongSha` only use the month through the key
`strToUpper (fmtX |month|)`; negating the month therefore changes nothing (for every month, in
particular for the leap month `-m` of a regular month `m > 0`). -/

/-- which of the two `month < 0` tests succeeds -/
theorem sd_neg_cases (m : Int) : (m < 0 ∧ ¬ -m < 0) ∨ m = 0 ∨ (¬ m < 0 ∧ -m < 0) := by omega

theorem dayJiShen_neg (m : Int) (p : String) :
    Gen.FnS.LunarUtil_GetDayJiShen (-m) p = Gen.FnS.LunarUtil_GetDayJiShen m p := by
  unfold Gen.FnS.LunarUtil_GetDayJiShen
  rcases sd_neg_cases m with ⟨h1, h2⟩ | rfl | ⟨h1, h2⟩
  · simp only [h1, h2, decide_true, decide_false, Int.neg_neg, Bool.false_eq_true, if_true, if_false]
  · rfl
  · simp only [h1, h2, decide_true, decide_false, Int.neg_neg, Bool.false_eq_true, if_true, if_false]

theorem dayXiongSha_neg (m : Int) (p : String) :
    Gen.FnS.LunarUtil_GetDayXiongSha (-m) p = Gen.FnS.LunarUtil_GetDayXiongSha m p := by
  unfold Gen.FnS.LunarUtil_GetDayXiongSha
  rcases sd_neg_cases m with ⟨h1, h2⟩ | rfl | ⟨h1, h2⟩
  · simp only [h1, h2, decide_true, decide_false, Int.neg_neg, Bool.false_eq_true, if_true, if_false]
  · rfl
  · simp only [h1, h2, decide_true, decide_false, Int.neg_neg, Bool.false_eq_true, if_true, if_false]

/-- in particular for the leap month `-m` of a regular month `m > 0` (the guard `0 < m` is not needed) -/
theorem dayJiShen_leap (m : Int) (_hm : 0 < m) (p : String) :
    Gen.FnS.LunarUtil_GetDayJiShen (-m) p = Gen.FnS.LunarUtil_GetDayJiShen m p := dayJiShen_neg m p
theorem dayXiongSha_leap (m : Int) (_hm : 0 < m) (p : String) :
    Gen.FnS.LunarUtil_GetDayXiongSha (-m) p = Gen.FnS.LunarUtil_GetDayXiongSha m p := dayXiongSha_neg m p

section
variable (l : Gen.FnS.Lunar)

theorem lunarGetDayJiShen_factor :
    Gen.FnS.calendar_Lunar_GetDayJiShen l
      = sd_pillar l.dayGanIndex l.dayZhiIndex >>= fun p => Gen.FnS.LunarUtil_GetDayJiShen l.month p := by
  unfold Gen.FnS.calendar_Lunar_GetDayJiShen
  rw [lunarGetMonth_eq, sb_bind_ok, sd_dayInGanZhi]

theorem lunarGetDayXiongSha_factor :
    Gen.FnS.calendar_Lunar_GetDayXiongSha l
      = sd_pillar l.dayGanIndex l.dayZhiIndex >>= fun p => Gen.FnS.LunarUtil_GetDayXiongSha l.month p := by
  unfold Gen.FnS.calendar_Lunar_GetDayXiongSha
  rw [lunarGetMonth_eq, sb_bind_ok, sd_dayInGanZhi]

theorem lunarGetDayYiBySect_factor (fuel : Nat) (sect : Int) :
    Gen.FnS.calendar_Lunar_GetDayYiBySect fuel l sect
      = sd_pillar l.monthGanIndex l.monthZhiIndex >>= fun mp =>
        (if sect = 2 then sd_pillar l.monthGanIndexExact l.monthZhiIndexExact else pure mp) >>= fun mp' =>
        sd_pillar l.dayGanIndex l.dayZhiIndex >>= fun dp => Gen.FnS.LunarUtil_GetDayYi fuel mp' dp := by
  unfold Gen.FnS.calendar_Lunar_GetDayYiBySect
  rw [sd_monthInGanZhi, sd_monthInGanZhiExact, sd_dayInGanZhi]
  congr; funext mp
  by_cases h : sect = 2
  · subst h; rfl
  · have h' : decide (2 = sect) = false := by simp; omega
    simp only [h', h, if_false, Bool.false_eq_true]
    rfl

theorem lunarGetDayJiBySect_factor (fuel : Nat) (sect : Int) :
    Gen.FnS.calendar_Lunar_GetDayJiBySect fuel l sect
      = sd_pillar l.monthGanIndex l.monthZhiIndex >>= fun mp =>
        (if sect = 2 then sd_pillar l.monthGanIndexExact l.monthZhiIndexExact else pure mp) >>= fun mp' =>
        sd_pillar l.dayGanIndex l.dayZhiIndex >>= fun dp => Gen.FnS.LunarUtil_GetDayJi fuel mp' dp := by
  unfold Gen.FnS.calendar_Lunar_GetDayJiBySect
  rw [sd_monthInGanZhi, sd_monthInGanZhiExact, sd_dayInGanZhi]
  congr; funext mp
  by_cases h : sect = 2
  · subst h; rfl
  · have h' : decide (2 = sect) = false := by simp; omega
    simp only [h', h, if_false, Bool.false_eq_true]
    rfl

/-- `GetDayYi` is `GetDayYiBySect` with sect 1 (the day-based month pillar) -/
theorem lunarGetDayYi_eq_bySect (fuel : Nat) :
    Gen.FnS.calendar_Lunar_GetDayYi fuel l = Gen.FnS.calendar_Lunar_GetDayYiBySect fuel l 1 := by
  rfl
theorem lunarGetDayJi_eq_bySect (fuel : Nat) :
    Gen.FnS.calendar_Lunar_GetDayJi fuel l = Gen.FnS.calendar_Lunar_GetDayJiBySect fuel l 1 := by
  rfl

theorem lunarGetTimeYi_factor :
    Gen.FnS.calendar_Lunar_GetTimeYi l
      = sd_pillar l.dayGanIndexExact l.dayZhiIndexExact >>= fun dp =>
        sd_pillar l.timeGanIndex l.timeZhiIndex >>= fun tp => Gen.FnS.LunarUtil_GetTimeYi dp tp := by
  unfold Gen.FnS.calendar_Lunar_GetTimeYi
  rw [sd_dayInGanZhiExact, sd_timeInGanZhi]

theorem lunarGetTimeJi_factor :
    Gen.FnS.calendar_Lunar_GetTimeJi l
      = sd_pillar l.dayGanIndexExact l.dayZhiIndexExact >>= fun dp =>
        sd_pillar l.timeGanIndex l.timeZhiIndex >>= fun tp => Gen.FnS.LunarUtil_GetTimeJi dp tp := by
  unfold Gen.FnS.calendar_Lunar_GetTimeJi
  rw [sd_dayInGanZhiExact, sd_timeInGanZhi]

end

section
variable (lt : Gen.FnS.LunarTime)

theorem lunarTimeGetYi_factor :
    Gen.FnS.calendar_LunarTime_GetYi lt
      = sd_pillar lt.lunar.dayGanIndexExact lt.lunar.dayZhiIndexExact >>= fun dp =>
        sd_pillar lt.ganIndex lt.zhiIndex >>= fun tp => Gen.FnS.LunarUtil_GetTimeYi dp tp := by
  unfold Gen.FnS.calendar_LunarTime_GetYi
  rw [sd_dayInGanZhiExact, sd_lunarTimeGanZhi]

theorem lunarTimeGetJi_factor :
    Gen.FnS.calendar_LunarTime_GetJi lt
      = sd_pillar lt.lunar.dayGanIndexExact lt.lunar.dayZhiIndexExact >>= fun dp =>
        sd_pillar lt.ganIndex lt.zhiIndex >>= fun tp => Gen.FnS.LunarUtil_GetTimeJi dp tp := by
  unfold Gen.FnS.calendar_LunarTime_GetJi
  rw [sd_dayInGanZhiExact, sd_lunarTimeGanZhi]

/-- the two routes to the hour's suitable list agree (no index guards: both sides panic together) -/
theorem lunarTimeGetYi_eq_lunarGetTimeYi
    (hg : lt.ganIndex = lt.lunar.timeGanIndex) (hz : lt.zhiIndex = lt.lunar.timeZhiIndex) :
    Gen.FnS.calendar_LunarTime_GetYi lt = Gen.FnS.calendar_Lunar_GetTimeYi lt.lunar := by
  rw [lunarTimeGetYi_factor, lunarGetTimeYi_factor, hg, hz]

theorem lunarTimeGetJi_eq_lunarGetTimeJi
    (hg : lt.ganIndex = lt.lunar.timeGanIndex) (hz : lt.zhiIndex = lt.lunar.timeZhiIndex) :
    Gen.FnS.calendar_LunarTime_GetJi lt = Gen.FnS.calendar_Lunar_GetTimeJi lt.lunar := by
  rw [lunarTimeGetJi_factor, lunarGetTimeJi_factor, hg, hz]

end

section
variable (l : Gen.FnS.Lunar)

theorem lunarGetDayJiShen_eq (g0 : -1 ≤ l.dayGanIndex) (g1 : l.dayGanIndex < 10)
    (z0 : -1 ≤ l.dayZhiIndex) (z1 : l.dayZhiIndex < 12) :
    Gen.FnS.calendar_Lunar_GetDayJiShen l
      = Gen.FnS.LunarUtil_GetDayJiShen l.month (pillarStr l.dayGanIndex l.dayZhiIndex) := by
  rw [lunarGetDayJiShen_factor, sd_pillar_ok _ _ g0 g1 z0 z1, sb_bind_ok]

theorem lunarGetDayXiongSha_eq (g0 : -1 ≤ l.dayGanIndex) (g1 : l.dayGanIndex < 10)
    (z0 : -1 ≤ l.dayZhiIndex) (z1 : l.dayZhiIndex < 12) :
    Gen.FnS.calendar_Lunar_GetDayXiongSha l
      = Gen.FnS.LunarUtil_GetDayXiongSha l.month (pillarStr l.dayGanIndex l.dayZhiIndex) := by
  rw [lunarGetDayXiongSha_factor, sd_pillar_ok _ _ g0 g1 z0 z1, sb_bind_ok]

theorem lunarGetDayJiShen_panic
    (h : l.dayGanIndex < -1 ∨ 10 ≤ l.dayGanIndex ∨ l.dayZhiIndex < -1 ∨ 12 ≤ l.dayZhiIndex) :
    Gen.FnS.calendar_Lunar_GetDayJiShen l = .error .panic := by
  rw [lunarGetDayJiShen_factor, sd_pillar_panic _ _ h, sb_bind_err]

theorem lunarGetDayXiongSha_panic
    (h : l.dayGanIndex < -1 ∨ 10 ≤ l.dayGanIndex ∨ l.dayZhiIndex < -1 ∨ 12 ≤ l.dayZhiIndex) :
    Gen.FnS.calendar_Lunar_GetDayXiongSha l = .error .panic := by
  rw [lunarGetDayXiongSha_factor, sd_pillar_panic _ _ h, sb_bind_err]

/-- the month pillar string `GetDayYi/JiBySect` hands to the decoder: sect 2 → the exact month pillar
(changes at the solar term's instant), every other sect → the day-based month pillar -/
def sd_monthPillarBySect (l : Gen.FnS.Lunar) (sect : Int) : String :=
  if sect = 2 then pillarStr l.monthGanIndexExact l.monthZhiIndexExact
  else pillarStr l.monthGanIndex l.monthZhiIndex

/-- guards: the day-based month pillar is computed for EVERY sect (so its indices must be in range
even for sect 2), the exact one only for sect 2 -/
theorem lunarGetDayYiBySect_eq (fuel : Nat) (sect : Int)
    (mg0 : -1 ≤ l.monthGanIndex) (mg1 : l.monthGanIndex < 10)
    (mz0 : -1 ≤ l.monthZhiIndex) (mz1 : l.monthZhiIndex < 12)
    (hx : sect = 2 → (-1 ≤ l.monthGanIndexExact ∧ l.monthGanIndexExact < 10)
                    ∧ (-1 ≤ l.monthZhiIndexExact ∧ l.monthZhiIndexExact < 12))
    (g0 : -1 ≤ l.dayGanIndex) (g1 : l.dayGanIndex < 10)
    (z0 : -1 ≤ l.dayZhiIndex) (z1 : l.dayZhiIndex < 12) :
    Gen.FnS.calendar_Lunar_GetDayYiBySect fuel l sect
      = Gen.FnS.LunarUtil_GetDayYi fuel (sd_monthPillarBySect l sect) (pillarStr l.dayGanIndex l.dayZhiIndex) := by
  rw [lunarGetDayYiBySect_factor, sd_pillar_ok _ _ mg0 mg1 mz0 mz1, sb_bind_ok,
    sd_pillar_ok _ _ g0 g1 z0 z1]
  unfold sd_monthPillarBySect
  by_cases h : sect = 2
  · obtain ⟨⟨a, b⟩, c, d⟩ := hx h
    rw [if_pos h, if_pos h, sd_pillar_ok _ _ a b c d, sb_bind_ok, sb_bind_ok]
  · rw [if_neg h, if_neg h]; rfl

theorem lunarGetDayJiBySect_eq (fuel : Nat) (sect : Int)
    (mg0 : -1 ≤ l.monthGanIndex) (mg1 : l.monthGanIndex < 10)
    (mz0 : -1 ≤ l.monthZhiIndex) (mz1 : l.monthZhiIndex < 12)
    (hx : sect = 2 → (-1 ≤ l.monthGanIndexExact ∧ l.monthGanIndexExact < 10)
                    ∧ (-1 ≤ l.monthZhiIndexExact ∧ l.monthZhiIndexExact < 12))
    (g0 : -1 ≤ l.dayGanIndex) (g1 : l.dayGanIndex < 10)
    (z0 : -1 ≤ l.dayZhiIndex) (z1 : l.dayZhiIndex < 12) :
    Gen.FnS.calendar_Lunar_GetDayJiBySect fuel l sect
      = Gen.FnS.LunarUtil_GetDayJi fuel (sd_monthPillarBySect l sect) (pillarStr l.dayGanIndex l.dayZhiIndex) := by
  rw [lunarGetDayJiBySect_factor, sd_pillar_ok _ _ mg0 mg1 mz0 mz1, sb_bind_ok,
    sd_pillar_ok _ _ g0 g1 z0 z1]
  unfold sd_monthPillarBySect
  by_cases h : sect = 2
  · obtain ⟨⟨a, b⟩, c, d⟩ := hx h
    rw [if_pos h, if_pos h, sd_pillar_ok _ _ a b c d, sb_bind_ok, sb_bind_ok]
  · rw [if_neg h, if_neg h]; rfl

theorem lunarGetDayYi_eq (fuel : Nat)
    (mg0 : -1 ≤ l.monthGanIndex) (mg1 : l.monthGanIndex < 10)
    (mz0 : -1 ≤ l.monthZhiIndex) (mz1 : l.monthZhiIndex < 12)
    (g0 : -1 ≤ l.dayGanIndex) (g1 : l.dayGanIndex < 10)
    (z0 : -1 ≤ l.dayZhiIndex) (z1 : l.dayZhiIndex < 12) :
    Gen.FnS.calendar_Lunar_GetDayYi fuel l
      = Gen.FnS.LunarUtil_GetDayYi fuel (pillarStr l.monthGanIndex l.monthZhiIndex)
          (pillarStr l.dayGanIndex l.dayZhiIndex) := by
  rw [lunarGetDayYi_eq_bySect, lunarGetDayYiBySect_eq l fuel 1 mg0 mg1 mz0 mz1 (by omega) g0 g1 z0 z1]
  rfl

theorem lunarGetDayJi_eq (fuel : Nat)
    (mg0 : -1 ≤ l.monthGanIndex) (mg1 : l.monthGanIndex < 10)
    (mz0 : -1 ≤ l.monthZhiIndex) (mz1 : l.monthZhiIndex < 12)
    (g0 : -1 ≤ l.dayGanIndex) (g1 : l.dayGanIndex < 10)
    (z0 : -1 ≤ l.dayZhiIndex) (z1 : l.dayZhiIndex < 12) :
    Gen.FnS.calendar_Lunar_GetDayJi fuel l
      = Gen.FnS.LunarUtil_GetDayJi fuel (pillarStr l.monthGanIndex l.monthZhiIndex)
          (pillarStr l.dayGanIndex l.dayZhiIndex) := by
  rw [lunarGetDayJi_eq_bySect, lunarGetDayJiBySect_eq l fuel 1 mg0 mg1 mz0 mz1 (by omega) g0 g1 z0 z1]
  rfl

/-- outside the month-pillar guard the accessor panics whatever `sect` is (Go computes
`GetMonthInGanZhi()` first, unconditionally) -/
theorem lunarGetDayYiBySect_panic_month (fuel : Nat) (sect : Int)
    (h : l.monthGanIndex < -1 ∨ 10 ≤ l.monthGanIndex ∨ l.monthZhiIndex < -1 ∨ 12 ≤ l.monthZhiIndex) :
    Gen.FnS.calendar_Lunar_GetDayYiBySect fuel l sect = .error .panic := by
  rw [lunarGetDayYiBySect_factor, sd_pillar_panic _ _ h, sb_bind_err]
theorem lunarGetDayJiBySect_panic_month (fuel : Nat) (sect : Int)
    (h : l.monthGanIndex < -1 ∨ 10 ≤ l.monthGanIndex ∨ l.monthZhiIndex < -1 ∨ 12 ≤ l.monthZhiIndex) :
    Gen.FnS.calendar_Lunar_GetDayJiBySect fuel l sect = .error .panic := by
  rw [lunarGetDayJiBySect_factor, sd_pillar_panic _ _ h, sb_bind_err]

theorem lunarGetTimeYi_eq (g0 : -1 ≤ l.dayGanIndexExact) (g1 : l.dayGanIndexExact < 10)
    (z0 : -1 ≤ l.dayZhiIndexExact) (z1 : l.dayZhiIndexExact < 12)
    (tg0 : -1 ≤ l.timeGanIndex) (tg1 : l.timeGanIndex < 10)
    (tz0 : -1 ≤ l.timeZhiIndex) (tz1 : l.timeZhiIndex < 12) :
    Gen.FnS.calendar_Lunar_GetTimeYi l
      = Gen.FnS.LunarUtil_GetTimeYi (pillarStr l.dayGanIndexExact l.dayZhiIndexExact)
          (pillarStr l.timeGanIndex l.timeZhiIndex) := by
  rw [lunarGetTimeYi_factor, sd_pillar_ok _ _ g0 g1 z0 z1, sb_bind_ok, sd_pillar_ok _ _ tg0 tg1 tz0 tz1,
    sb_bind_ok]

theorem lunarGetTimeJi_eq (g0 : -1 ≤ l.dayGanIndexExact) (g1 : l.dayGanIndexExact < 10)
    (z0 : -1 ≤ l.dayZhiIndexExact) (z1 : l.dayZhiIndexExact < 12)
    (tg0 : -1 ≤ l.timeGanIndex) (tg1 : l.timeGanIndex < 10)
    (tz0 : -1 ≤ l.timeZhiIndex) (tz1 : l.timeZhiIndex < 12) :
    Gen.FnS.calendar_Lunar_GetTimeJi l
      = Gen.FnS.LunarUtil_GetTimeJi (pillarStr l.dayGanIndexExact l.dayZhiIndexExact)
          (pillarStr l.timeGanIndex l.timeZhiIndex) := by
  rw [lunarGetTimeJi_factor, sd_pillar_ok _ _ g0 g1 z0 z1, sb_bind_ok, sd_pillar_ok _ _ tg0 tg1 tz0 tz1,
    sb_bind_ok]

end

section
variable (lt : Gen.FnS.LunarTime)

theorem lunarTimeGetYi_eq (g0 : -1 ≤ lt.lunar.dayGanIndexExact) (g1 : lt.lunar.dayGanIndexExact < 10)
    (z0 : -1 ≤ lt.lunar.dayZhiIndexExact) (z1 : lt.lunar.dayZhiIndexExact < 12)
    (tg0 : -1 ≤ lt.ganIndex) (tg1 : lt.ganIndex < 10) (tz0 : -1 ≤ lt.zhiIndex) (tz1 : lt.zhiIndex < 12) :
    Gen.FnS.calendar_LunarTime_GetYi lt
      = Gen.FnS.LunarUtil_GetTimeYi (pillarStr lt.lunar.dayGanIndexExact lt.lunar.dayZhiIndexExact)
          (pillarStr lt.ganIndex lt.zhiIndex) := by
  rw [lunarTimeGetYi_factor, sd_pillar_ok _ _ g0 g1 z0 z1, sb_bind_ok, sd_pillar_ok _ _ tg0 tg1 tz0 tz1,
    sb_bind_ok]

theorem lunarTimeGetJi_eq (g0 : -1 ≤ lt.lunar.dayGanIndexExact) (g1 : lt.lunar.dayGanIndexExact < 10)
    (z0 : -1 ≤ lt.lunar.dayZhiIndexExact) (z1 : lt.lunar.dayZhiIndexExact < 12)
    (tg0 : -1 ≤ lt.ganIndex) (tg1 : lt.ganIndex < 10) (tz0 : -1 ≤ lt.zhiIndex) (tz1 : lt.zhiIndex < 12) :
    Gen.FnS.calendar_LunarTime_GetJi lt
      = Gen.FnS.LunarUtil_GetTimeJi (pillarStr lt.lunar.dayGanIndexExact lt.lunar.dayZhiIndexExact)
          (pillarStr lt.ganIndex lt.zhiIndex) := by
  rw [lunarTimeGetJi_factor, sd_pillar_ok _ _ g0 g1 z0 z1, sb_bind_ok, sd_pillar_ok _ _ tg0 tg1 tz0 tz1,
    sb_bind_ok]

end

theorem lunarGetDayJiShen_congr (l l' : Gen.FnS.Lunar) (hm : l.month = l'.month)
    (hg : l.dayGanIndex = l'.dayGanIndex) (hz : l.dayZhiIndex = l'.dayZhiIndex) :
    Gen.FnS.calendar_Lunar_GetDayJiShen l = Gen.FnS.calendar_Lunar_GetDayJiShen l' := by
  rw [lunarGetDayJiShen_factor, lunarGetDayJiShen_factor, hm, hg, hz]

theorem lunarGetDayXiongSha_congr (l l' : Gen.FnS.Lunar) (hm : l.month = l'.month)
    (hg : l.dayGanIndex = l'.dayGanIndex) (hz : l.dayZhiIndex = l'.dayZhiIndex) :
    Gen.FnS.calendar_Lunar_GetDayXiongSha l = Gen.FnS.calendar_Lunar_GetDayXiongSha l' := by
  rw [lunarGetDayXiongSha_factor, lunarGetDayXiongSha_factor, hm, hg, hz]

theorem lunarGetDayYiBySect_congr (fuel : Nat) (sect : Int) (l l' : Gen.FnS.Lunar)
    (hmg : l.monthGanIndex = l'.monthGanIndex) (hmz : l.monthZhiIndex = l'.monthZhiIndex)
    (hxg : l.monthGanIndexExact = l'.monthGanIndexExact) (hxz : l.monthZhiIndexExact = l'.monthZhiIndexExact)
    (hg : l.dayGanIndex = l'.dayGanIndex) (hz : l.dayZhiIndex = l'.dayZhiIndex) :
    Gen.FnS.calendar_Lunar_GetDayYiBySect fuel l sect = Gen.FnS.calendar_Lunar_GetDayYiBySect fuel l' sect := by
  rw [lunarGetDayYiBySect_factor, lunarGetDayYiBySect_factor, hmg, hmz, hxg, hxz, hg, hz]

theorem lunarGetDayJiBySect_congr (fuel : Nat) (sect : Int) (l l' : Gen.FnS.Lunar)
    (hmg : l.monthGanIndex = l'.monthGanIndex) (hmz : l.monthZhiIndex = l'.monthZhiIndex)
    (hxg : l.monthGanIndexExact = l'.monthGanIndexExact) (hxz : l.monthZhiIndexExact = l'.monthZhiIndexExact)
    (hg : l.dayGanIndex = l'.dayGanIndex) (hz : l.dayZhiIndex = l'.dayZhiIndex) :
    Gen.FnS.calendar_Lunar_GetDayJiBySect fuel l sect = Gen.FnS.calendar_Lunar_GetDayJiBySect fuel l' sect := by
  rw [lunarGetDayJiBySect_factor, lunarGetDayJiBySect_factor, hmg, hmz, hxg, hxz, hg, hz]

/-- for a sect other than 2 (in particular for plain `GetDayYi`) the exact month pillar is not read -/
theorem lunarGetDayYiBySect_congr' (fuel : Nat) (sect : Int) (hs : sect ≠ 2) (l l' : Gen.FnS.Lunar)
    (hmg : l.monthGanIndex = l'.monthGanIndex) (hmz : l.monthZhiIndex = l'.monthZhiIndex)
    (hg : l.dayGanIndex = l'.dayGanIndex) (hz : l.dayZhiIndex = l'.dayZhiIndex) :
    Gen.FnS.calendar_Lunar_GetDayYiBySect fuel l sect = Gen.FnS.calendar_Lunar_GetDayYiBySect fuel l' sect := by
  rw [lunarGetDayYiBySect_factor, lunarGetDayYiBySect_factor, hmg, hmz, hg, hz]
  simp only [if_neg hs]

theorem lunarGetDayJiBySect_congr' (fuel : Nat) (sect : Int) (hs : sect ≠ 2) (l l' : Gen.FnS.Lunar)
    (hmg : l.monthGanIndex = l'.monthGanIndex) (hmz : l.monthZhiIndex = l'.monthZhiIndex)
    (hg : l.dayGanIndex = l'.dayGanIndex) (hz : l.dayZhiIndex = l'.dayZhiIndex) :
    Gen.FnS.calendar_Lunar_GetDayJiBySect fuel l sect = Gen.FnS.calendar_Lunar_GetDayJiBySect fuel l' sect := by
  rw [lunarGetDayJiBySect_factor, lunarGetDayJiBySect_factor, hmg, hmz, hg, hz]
  simp only [if_neg hs]

theorem lunarGetDayYi_congr (fuel : Nat) (l l' : Gen.FnS.Lunar)
    (hmg : l.monthGanIndex = l'.monthGanIndex) (hmz : l.monthZhiIndex = l'.monthZhiIndex)
    (hg : l.dayGanIndex = l'.dayGanIndex) (hz : l.dayZhiIndex = l'.dayZhiIndex) :
    Gen.FnS.calendar_Lunar_GetDayYi fuel l = Gen.FnS.calendar_Lunar_GetDayYi fuel l' := by
  rw [lunarGetDayYi_eq_bySect, lunarGetDayYi_eq_bySect]
  exact lunarGetDayYiBySect_congr' fuel 1 (by omega) l l' hmg hmz hg hz

theorem lunarGetDayJi_congr (fuel : Nat) (l l' : Gen.FnS.Lunar)
    (hmg : l.monthGanIndex = l'.monthGanIndex) (hmz : l.monthZhiIndex = l'.monthZhiIndex)
    (hg : l.dayGanIndex = l'.dayGanIndex) (hz : l.dayZhiIndex = l'.dayZhiIndex) :
    Gen.FnS.calendar_Lunar_GetDayJi fuel l = Gen.FnS.calendar_Lunar_GetDayJi fuel l' := by
  rw [lunarGetDayJi_eq_bySect, lunarGetDayJi_eq_bySect]
  exact lunarGetDayJiBySect_congr' fuel 1 (by omega) l l' hmg hmz hg hz

theorem lunarGetTimeYi_congr (l l' : Gen.FnS.Lunar)
    (hg : l.dayGanIndexExact = l'.dayGanIndexExact) (hz : l.dayZhiIndexExact = l'.dayZhiIndexExact)
    (htg : l.timeGanIndex = l'.timeGanIndex) (htz : l.timeZhiIndex = l'.timeZhiIndex) :
    Gen.FnS.calendar_Lunar_GetTimeYi l = Gen.FnS.calendar_Lunar_GetTimeYi l' := by
  rw [lunarGetTimeYi_factor, lunarGetTimeYi_factor, hg, hz, htg, htz]

theorem lunarGetTimeJi_congr (l l' : Gen.FnS.Lunar)
    (hg : l.dayGanIndexExact = l'.dayGanIndexExact) (hz : l.dayZhiIndexExact = l'.dayZhiIndexExact)
    (htg : l.timeGanIndex = l'.timeGanIndex) (htz : l.timeZhiIndex = l'.timeZhiIndex) :
    Gen.FnS.calendar_Lunar_GetTimeJi l = Gen.FnS.calendar_Lunar_GetTimeJi l' := by
  rw [lunarGetTimeJi_factor, lunarGetTimeJi_factor, hg, hz, htg, htz]

/-! ### 3. the decoders never return an empty list

Every control path of the six decoders ends in `if len(l) < 1 { l = append(l, "无") }; return l`
(or in an error).  `sd_NE e` says: whenever `e` is a normal result, the list is non-empty; it is
closed under `>>=` (in the continuation), `if`, errors, and holds for that final block. -/

def sd_NE (e : Except Err (List String)) : Prop := ∀ r, e = .ok r → r ≠ []

theorem sd_NE_bind {α : Type} (x : Except Err α) (f : α → Except Err (List String))
    (h : ∀ a, sd_NE (f a)) : sd_NE (x >>= f) := by
  intro r hr
  cases x with
  | error e => cases hr
  | ok a => exact h a r hr

theorem sd_NE_ite (c : Prop) [Decidable c] (a b : Except Err (List String)) (ha : sd_NE a) (hb : sd_NE b) :
    sd_NE (if c then a else b) := by
  by_cases h : c
  · rw [if_pos h]; exact ha
  · rw [if_neg h]; exact hb

theorem sd_NE_fin (l : List String) :
    sd_NE (if decide ((l.length : Int) < 1) = true then (pure (l ++ ["无"]) : Except Err (List String)) else pure l) := by
  intro r hr
  by_cases h : decide ((l.length : Int) < 1) = true
  · rw [if_pos h] at hr; cases hr; simp
  · rw [if_neg h] at hr; cases hr
    intro hl; subst hl; exact h (by decide)

macro "sd_ne_tac" : tactic =>
  `(tactic| repeat' (first
      | with_reducible exact sd_NE_fin _
      | (with_reducible apply sd_NE_bind; intro _)
      | with_reducible apply sd_NE_ite))

/-- the six decoders (each statement is `sd_NE` of the decoder, unfolded) -/
theorem dayJiShen_ne_nil (m : Int) (p : String) (r : List String)
    (h : Gen.FnS.LunarUtil_GetDayJiShen m p = .ok r) : r ≠ [] := by
  revert r
  show sd_NE _
  unfold Gen.FnS.LunarUtil_GetDayJiShen
  dsimp only
  sd_ne_tac
theorem dayXiongSha_ne_nil (m : Int) (p : String) (r : List String)
    (h : Gen.FnS.LunarUtil_GetDayXiongSha m p = .ok r) : r ≠ [] := by
  revert r
  show sd_NE _
  unfold Gen.FnS.LunarUtil_GetDayXiongSha
  dsimp only
  sd_ne_tac
theorem dayYi_ne_nil (fuel : Nat) (mp dp : String) (r : List String)
    (h : Gen.FnS.LunarUtil_GetDayYi fuel mp dp = .ok r) : r ≠ [] := by
  revert r
  show sd_NE _
  unfold Gen.FnS.LunarUtil_GetDayYi
  dsimp only
  sd_ne_tac
theorem dayJi_ne_nil (fuel : Nat) (mp dp : String) (r : List String)
    (h : Gen.FnS.LunarUtil_GetDayJi fuel mp dp = .ok r) : r ≠ [] := by
  revert r
  show sd_NE _
  unfold Gen.FnS.LunarUtil_GetDayJi
  dsimp only
  sd_ne_tac
theorem timeYi_ne_nil (dp tp : String) (r : List String)
    (h : Gen.FnS.LunarUtil_GetTimeYi dp tp = .ok r) : r ≠ [] := by
  revert r
  show sd_NE _
  unfold Gen.FnS.LunarUtil_GetTimeYi
  dsimp only
  sd_ne_tac
theorem timeJi_ne_nil (dp tp : String) (r : List String)
    (h : Gen.FnS.LunarUtil_GetTimeJi dp tp = .ok r) : r ≠ [] := by
  revert r
  show sd_NE _
  unfold Gen.FnS.LunarUtil_GetTimeJi
  dsimp only
  sd_ne_tac

/-- … hence the accessors (guard-free: they are `pillar computations >>= decoder`) -/
theorem lunarGetDayJiShen_ne_nil (l : Gen.FnS.Lunar) (r : List String)
    (h : Gen.FnS.calendar_Lunar_GetDayJiShen l = .ok r) : r ≠ [] := by
  rw [lunarGetDayJiShen_factor] at h
  exact sd_NE_bind _ _ (dayJiShen_ne_nil _) r h
theorem lunarGetDayXiongSha_ne_nil (l : Gen.FnS.Lunar) (r : List String)
    (h : Gen.FnS.calendar_Lunar_GetDayXiongSha l = .ok r) : r ≠ [] := by
  rw [lunarGetDayXiongSha_factor] at h
  exact sd_NE_bind _ _ (dayXiongSha_ne_nil _) r h
theorem lunarGetDayYiBySect_ne_nil (fuel : Nat) (l : Gen.FnS.Lunar) (sect : Int) (r : List String)
    (h : Gen.FnS.calendar_Lunar_GetDayYiBySect fuel l sect = .ok r) : r ≠ [] := by
  rw [lunarGetDayYiBySect_factor] at h
  exact sd_NE_bind _ _ (fun _ => sd_NE_bind _ _ (fun _ => sd_NE_bind _ _ (fun _ => dayYi_ne_nil _ _ _))) r h
theorem lunarGetDayJiBySect_ne_nil (fuel : Nat) (l : Gen.FnS.Lunar) (sect : Int) (r : List String)
    (h : Gen.FnS.calendar_Lunar_GetDayJiBySect fuel l sect = .ok r) : r ≠ [] := by
  rw [lunarGetDayJiBySect_factor] at h
  exact sd_NE_bind _ _ (fun _ => sd_NE_bind _ _ (fun _ => sd_NE_bind _ _ (fun _ => dayJi_ne_nil _ _ _))) r h
theorem lunarGetDayYi_ne_nil (fuel : Nat) (l : Gen.FnS.Lunar) (r : List String)
    (h : Gen.FnS.calendar_Lunar_GetDayYi fuel l = .ok r) : r ≠ [] :=
  lunarGetDayYiBySect_ne_nil fuel l 1 r h
theorem lunarGetDayJi_ne_nil (fuel : Nat) (l : Gen.FnS.Lunar) (r : List String)
    (h : Gen.FnS.calendar_Lunar_GetDayJi fuel l = .ok r) : r ≠ [] :=
  lunarGetDayJiBySect_ne_nil fuel l 1 r h
theorem lunarGetTimeYi_ne_nil (l : Gen.FnS.Lunar) (r : List String)
    (h : Gen.FnS.calendar_Lunar_GetTimeYi l = .ok r) : r ≠ [] := by
  rw [lunarGetTimeYi_factor] at h
  exact sd_NE_bind _ _ (fun _ => sd_NE_bind _ _ (fun _ => timeYi_ne_nil _ _)) r h
theorem lunarGetTimeJi_ne_nil (l : Gen.FnS.Lunar) (r : List String)
    (h : Gen.FnS.calendar_Lunar_GetTimeJi l = .ok r) : r ≠ [] := by
  rw [lunarGetTimeJi_factor] at h
  exact sd_NE_bind _ _ (fun _ => sd_NE_bind _ _ (fun _ => timeJi_ne_nil _ _)) r h
theorem lunarTimeGetYi_ne_nil (lt : Gen.FnS.LunarTime) (r : List String)
    (h : Gen.FnS.calendar_LunarTime_GetYi lt = .ok r) : r ≠ [] := by
  rw [lunarTimeGetYi_factor] at h
  exact sd_NE_bind _ _ (fun _ => sd_NE_bind _ _ (fun _ => timeYi_ne_nil _ _)) r h
theorem lunarTimeGetJi_ne_nil (lt : Gen.FnS.LunarTime) (r : List String)
    (h : Gen.FnS.calendar_LunarTime_GetJi lt = .ok r) : r ≠ [] := by
  rw [lunarTimeGetJi_factor] at h
  exact sd_NE_bind _ _ (fun _ => sd_NE_bind _ _ (fun _ => timeJi_ne_nil _ _)) r h

section Axioms
#print axioms dayJiShen_neg
#print axioms dayXiongSha_neg
#print axioms dayJiShen_leap
#print axioms dayXiongSha_leap
#print axioms lunarGetDayJiShen_factor
#print axioms lunarGetDayXiongSha_factor
#print axioms lunarGetDayYiBySect_factor
#print axioms lunarGetDayJiBySect_factor
#print axioms lunarGetDayYi_eq_bySect
#print axioms lunarGetDayJi_eq_bySect
#print axioms lunarGetTimeYi_factor
#print axioms lunarGetTimeJi_factor
#print axioms lunarTimeGetYi_factor
#print axioms lunarTimeGetJi_factor
#print axioms lunarTimeGetYi_eq_lunarGetTimeYi
#print axioms lunarTimeGetJi_eq_lunarGetTimeJi
#print axioms lunarGetDayJiShen_eq
#print axioms lunarGetDayXiongSha_eq
#print axioms lunarGetDayJiShen_panic
#print axioms lunarGetDayXiongSha_panic
#print axioms lunarGetDayYiBySect_eq
#print axioms lunarGetDayJiBySect_eq
#print axioms lunarGetDayYi_eq
#print axioms lunarGetDayJi_eq
#print axioms lunarGetDayYiBySect_panic_month
#print axioms lunarGetDayJiBySect_panic_month
#print axioms lunarGetTimeYi_eq
#print axioms lunarGetTimeJi_eq
#print axioms lunarTimeGetYi_eq
#print axioms lunarTimeGetJi_eq
#print axioms lunarGetDayJiShen_congr
#print axioms lunarGetDayXiongSha_congr
#print axioms lunarGetDayYiBySect_congr
#print axioms lunarGetDayJiBySect_congr
#print axioms lunarGetDayYiBySect_congr'
#print axioms lunarGetDayJiBySect_congr'
#print axioms lunarGetDayYi_congr
#print axioms lunarGetDayJi_congr
#print axioms lunarGetTimeYi_congr
#print axioms lunarGetTimeJi_congr
#print axioms dayJiShen_ne_nil
#print axioms dayXiongSha_ne_nil
#print axioms dayYi_ne_nil
#print axioms dayJi_ne_nil
#print axioms timeYi_ne_nil
#print axioms timeJi_ne_nil
#print axioms lunarGetDayJiShen_ne_nil
#print axioms lunarGetDayXiongSha_ne_nil
#print axioms lunarGetDayYiBySect_ne_nil
#print axioms lunarGetDayJiBySect_ne_nil
#print axioms lunarGetDayYi_ne_nil
#print axioms lunarGetDayJi_ne_nil
#print axioms lunarGetTimeYi_ne_nil
#print axioms lunarGetTimeJi_ne_nil
#print axioms lunarTimeGetYi_ne_nil
#print axioms lunarTimeGetJi_ne_nil
end Axioms
end FnSEq
