/-
Proofs.MonthNav — structure of a lunar year's month table (`year_structure`, `new_years_eve`) and `LunarMonth.Next`
over an arbitrary well-formed oracle without reform years.
`yearLine` writes the own months of consecutive good years one year after the other, without their table-relative index;
`MonthLine` says what the walks use of such a line (no month twice, every table a window of it, one place to the right is
`succMonth`); `monthNext_pos`: `monthNext A y m n` is `n` places along the line. The properties of `Next` follow from it.
-/
import Proofs.Convert
namespace Model

/-- position of `l[i]` inside `l.filter p` -/
def fpos {α : Type} (p : α → Bool) (l : List α) (i : Nat) : Nat := ((l.take i).filter p).length

theorem fpos_add_drop {α : Type} (p : α → Bool) (l : List α) (i : Nat) :
    fpos p l i + ((l.drop i).filter p).length = (l.filter p).length := by
  unfold fpos
  rw [← List.length_append, ← List.filter_append, List.take_append_drop]

theorem fpos_get {α : Type} (p : α → Bool) (l : List α) (i : Nat) (a : α) (h : l[i]? = some a) (hp : p a = true) :
    (l.filter p)[fpos p l i]? = some a := by
  obtain ⟨hi, rfl⟩ := List.getElem?_eq_some_iff.1 h
  unfold fpos
  conv => lhs; arg 1; rw [← List.take_append_drop i l, List.drop_eq_getElem_cons hi]
  rw [List.filter_append, List.filter_cons, if_pos hp, List.getElem?_append_right (Nat.le_refl _), Nat.sub_self]
  rfl

theorem fpos_succ {α : Type} (p : α → Bool) (l : List α) (i : Nat) (a : α) (h : l[i]? = some a) :
    fpos p l (i + 1) = fpos p l i + (if p a then 1 else 0) := by
  unfold fpos
  rw [List.take_add_one, h, Option.toList_some, List.filter_append, List.length_append, List.filter_cons]
  split <;> rfl

theorem fpos_le {α : Type} (p : α → Bool) (l : List α) (i : Nat) : fpos p l i ≤ (l.filter p).length := by
  have := fpos_add_drop p l i
  omega

theorem getElem?_mid {α : Type} (X M Z : List α) (i : Nat) (a : α) (h : M[i]? = some a) :
    (X ++ M ++ Z)[X.length + i]? = some a := by
  rw [List.append_assoc, List.getElem?_append_right (Nat.le_add_right _ _), Nat.add_sub_cancel_left,
    List.getElem?_append_left (List.getElem?_eq_some_iff.1 h).1, h]

theorem infix_getElem? {α : Type} {l₁ l₂ : List α} : l₁ <:+: l₂ → ∃ c : Nat, ∀ (i : Nat) (a : α), l₁[i]? = some a → l₂[c + i]? = some a
  | ⟨s, t, e⟩ => ⟨s.length, fun i a h => e ▸ getElem?_mid s l₁ t i a h⟩

theorem findIdx?_of_key {α β : Type} [BEq β] [LawfulBEq β] (f : α → β) (L : List α) (k : Nat) (a : α)
    (hp : L.Pairwise (fun x y => f x ≠ f y)) (h : L[k]? = some a) :
    L.findIdx? (fun x => f x == f a) = some k := by
  obtain ⟨hk, rfl⟩ := List.getElem?_eq_some_iff.1 h
  rw [List.findIdx?_eq_some_iff_getElem]
  exact ⟨hk, beq_self_eq_true _, fun j hj => by rw [beq_iff_eq]; exact List.pairwise_iff_getElem.1 hp j k _ hk hj⟩

theorem allAdj_get_nav {α : Type} (f : α → α → Bool) : ∀ (l : List α), allAdj f l = true →
    ∀ (i : Nat) (a b : α), l[i]? = some a → l[i + 1]? = some b → f a b = true
  | [], _, i, a, b, ha, _ => by cases ha
  | [c], _, i, a, b, ha, hb => by cases hb
  | c :: d :: rest, h, i, a, b, ha, hb => by
    simp only [allAdj, Bool.and_eq_true] at h
    cases i with
    | zero =>
      cases ha; cases hb
      exact h.1
    | succ i => exact allAdj_get_nav f (d :: rest) h.2 i a b ha hb

theorem allAdj_mid {α : Type} (f : α → α → Bool) (X : List α) (a b : α) (Z : List α)
    (h : allAdj f (X ++ a :: b :: Z) = true) : f a b = true :=
  allAdj_get_nav f _ h X.length a b
    (by rw [List.getElem?_append_right (Nat.le_refl _), Nat.sub_self]; rfl)
    (by rw [List.getElem?_append_right (Nat.le_add_right _ 1), Nat.add_sub_cancel_left]; rfl)

/-- a record without its table-relative `index` -/
def MonthRec.key (r : MonthRec) : MonthRec := { r with index := 0 }

theorem isPrefixOf'_key : ∀ (X L : List MonthRec), isPrefixOf' X L = true → X.map MonthRec.key <+: L.map MonthRec.key
  | [], L, _ => List.nil_prefix
  | a :: X, [], h => by cases h
  | a :: X, b :: L, h => by
    simp only [isPrefixOf', Bool.and_eq_true, beq_iff_eq] at h
    rw [List.map_cons, List.map_cons, List.cons_prefix_cons]
    refine ⟨?_, isPrefixOf'_key X L h.2⟩
    unfold MonthRec.key
    rw [h.1.1.1.1, h.1.1.1.2, h.1.1.2, h.1.2]

theorem isPrefixOf'_reverse_key (X L : List MonthRec) (h : isPrefixOf' X.reverse L.reverse = true) :
    X.map MonthRec.key <:+ L.map MonthRec.key := by
  have := isPrefixOf'_key _ _ h
  rwa [List.map_reverse, List.map_reverse, List.reverse_prefix] at this

theorem map_get {α β : Type} (f : α → β) (l : List α) (i : Nat) (a : α) (h : l[i]? = some a) :
    (l.map f)[i]? = some (f a) := by
  rw [List.getElem?_map, h]; rfl

theorem map_get_inv {α β : Type} (f : α → β) (l : List α) (i : Nat) (b : β) (h : (l.map f)[i]? = some b) :
    ∃ a, l[i]? = some a ∧ f a = b :=
  Option.map_eq_some_iff.1 (List.getElem?_map ▸ h)

theorem seq_le : ∀ (L : List Int) (k : Int) (u : Bool), inYearSeqOk k u L = true → k ≤ 12
  | [], k, u, h => Int.le_of_eq (beq_iff_eq.1 h)
  | m :: rest, k, u, h => by
    unfold inYearSeqOk at h
    split at h
    · have := seq_le rest _ _ h; omega
    · split at h
      · exact seq_le rest _ _ h
      · cases h

/-- `inYearSeqOk` accepts exactly what these three rules generate -/
theorem seq_rec {P : Int → Bool → List Int → Prop} (nil : ∀ u, P 12 u [])
    (next : ∀ k u rest, 0 ≤ k → k < 12 → P (k + 1) u rest → P k u ((k + 1) :: rest))
    (leap : ∀ k rest, 1 ≤ k → P k true rest → P k false (-k :: rest)) :
    ∀ (L : List Int) (k : Int) (u : Bool), 0 ≤ k → inYearSeqOk k u L = true → P k u L
  | [], k, u, _, h => by
    obtain rfl : k = 12 := beq_iff_eq.1 h
    exact nil u
  | m :: rest, k, u, hk, h => by
    unfold inYearSeqOk at h
    split at h
    · rename_i c
      obtain rfl : m = k + 1 := beq_iff_eq.1 c
      have := seq_le rest _ _ h
      exact next k u rest hk (by omega) (seq_rec nil next leap rest (k + 1) u (by omega) h)
    · split at h
      · rename_i c
        simp only [Bool.and_eq_true, beq_iff_eq, Bool.not_eq_true', decide_eq_true_eq] at c
        obtain ⟨⟨rfl, rfl⟩, k1⟩ := c
        exact leap k rest k1 (seq_rec nil next leap rest k true hk h)
      · cases h

def seqTo12 : Nat → Int → List Int
  | 0, _ => []
  | n + 1, k => (k + 1) :: seqTo12 n (k + 1)

theorem seq_pos : ∀ (L : List Int) (k : Int) (u : Bool), 0 ≤ k → inYearSeqOk k u L = true →
    L.filter (fun m => decide (m > 0)) = seqTo12 (12 - k).toNat k := by
  refine seq_rec (fun _ => rfl) ?_ ?_
  · intro k u rest h0 h12 ih
    rw [List.filter_cons, if_pos (decide_eq_true (by omega)), ih,
      show (12 - k).toNat = (12 - (k + 1)).toNat + 1 by omega]
    rfl
  · intro k rest h1 ih
    rw [List.filter_cons, if_neg (by simp only [decide_eq_true_eq]; omega), ih]

theorem seq_neg : ∀ (L : List Int) (k : Int) (u : Bool), 0 ≤ k → inYearSeqOk k u L = true →
    (L.filter (fun m => decide (m < 0))).length ≤ (if u = true then 0 else 1) := by
  refine seq_rec (fun _ => Nat.zero_le _) ?_ ?_
  · intro k u rest h0 _ ih
    rwa [List.filter_cons, if_neg (by simp only [decide_eq_true_eq]; omega)]
  · intro k rest h1 ih
    rw [List.filter_cons, if_pos (decide_eq_true (by omega))]
    exact Nat.succ_le_succ ih

theorem seq_adj : ∀ (L : List Int) (k : Int) (u : Bool), 0 ≤ k → inYearSeqOk k u L = true →
    (∀ b, L[0]? = some b → b = k + 1 ∨ (b = -k ∧ u = false ∧ 1 ≤ k)) ∧
    (∀ (i : Nat) (a b : Int), L[i]? = some a → L[i + 1]? = some b → b < 0 → b = -a) := by
  refine seq_rec (fun _ => ⟨fun _ hb => (by cases hb), fun _ _ _ ha => (by cases ha)⟩) ?_ ?_
  · intro k u rest h0 _ ih
    refine ⟨fun b hb => Or.inl (Option.some.inj hb).symm, fun i a b ha hb hneg => ?_⟩
    cases i with
    | zero =>
      obtain rfl : k + 1 = a := Option.some.inj ha
      have := ih.1 b hb
      omega
    | succ i => exact ih.2 i a b ha hb hneg
  · intro k rest h1 ih
    refine ⟨fun b hb => Or.inr ⟨(Option.some.inj hb).symm, rfl, h1⟩, fun i a b ha hb hneg => ?_⟩
    cases i with
    | zero =>
      rcases ih.1 b hb with e | ⟨_, e, _⟩
      · omega
      · cases e
    | succ i => exact ih.2 i a b ha hb hneg

theorem seq_last : ∀ (L : List Int) (k : Int) (u : Bool), 0 ≤ k → inYearSeqOk k u L = true →
    ∀ x, (k :: L).getLast? = some x → x = 12 ∨ x = -12 := by
  refine seq_rec (fun _ x hx => Or.inl (Option.some.inj hx).symm) ?_ ?_
  · intro k u rest _ _ ih x hx
    exact ih x (by rwa [List.getLast?_cons_cons] at hx)
  · intro k rest h1 ih x hx
    rw [List.getLast?_cons_cons] at hx
    cases rest with
    | nil =>
      have := ih k rfl
      obtain rfl : -k = x := Option.some.inj hx
      omega
    | cons c rest => exact ih x (by rwa [List.getLast?_cons_cons] at hx ⊢)

structure StructP (y : Int) (ms : List MonthRec) : Prop where
  days : ∀ r ∈ ms, r.dayCount = 29 ∨ r.dayCount = 30
  seq : inYearSeqOk 0 false ((monthsInYear ms y).map (·.month)) = true
  total : (353 ≤ yearDayCount ms y ∧ yearDayCount ms y ≤ 355) ∨ (383 ≤ yearDayCount ms y ∧ yearDayCount ms y ≤ 385)
  len : ((monthsInYear ms y).length : Int) = if leapMonthOf ms y = 0 then 12 else 13

theorem structP_of (y : Int) (ms : List MonthRec) (h : yearStructOk y ms = true) : StructP y ms := by
  unfold yearStructOk at h
  simp only [Bool.and_eq_true, List.all_eq_true, Bool.or_eq_true, beq_iff_eq, decide_eq_true_eq] at h
  obtain ⟨⟨⟨⟨h1, h2⟩, h3⟩, _⟩, h5⟩ := h
  exact ⟨h1, h2, h3, h5⟩

theorem structP_year (A : Astro) (lo hi : Int) (h : AstroOK A lo hi) (y : Int) (hlo : lo ≤ y) (hhi : y ≤ hi)
    (hnr : isReformYear y = false) : StructP y (A y).months := by
  have := h.year y hlo hhi
  unfold yearOk at this
  simp only [Bool.and_eq_true, Bool.or_eq_true, hnr, Bool.false_eq_true, false_or] at this
  exact structP_of _ _ this.2

structure PairS (y : Int) (ms ms' : List MonthRec) : Prop where
  fwd : recordsAgree (fun _ => true) (y + 1) ms ms' = true
  bwd : recordsAgree (fun _ => true) y ms' ms = true
  pre : isPrefixOf' (monthsInYear ms (y + 1)) (monthsInYear ms' (y + 1)) = true
  suf : isPrefixOf' (monthsInYear ms' y).reverse (monthsInYear ms y).reverse = true
  link : monthsInYear ms' y ≠ [] ∨ monthsInYear ms (y + 1) ≠ []

theorem pairS_year (A : Astro) (lo hi : Int) (h : AstroOK A lo hi) (y : Int) (hlo : lo ≤ y) (hhi : y < hi)
    (hnr : isReformYear y = false) (hnr' : isReformYear (y + 1) = false) : PairS y (A y).months (A (y + 1)).months := by
  have := h.pair y hlo hhi
  unfold pairOk at this
  simp only [hnr, hnr', Bool.or_false, Bool.false_eq_true, if_false, Bool.and_eq_true] at this
  have hs := this.1.1
  unfold pairStructOk at hs
  simp only [Bool.and_eq_true, Bool.or_eq_true, Bool.not_eq_true', List.isEmpty_eq_false_iff] at hs
  exact ⟨hs.1.1.1.1, hs.1.1.1.2, hs.1.1.2, hs.1.2, hs.2⟩

/-- everything the checkers say about one non-reform year -/
structure GoodY (A : Astro) (y : Int) : Prop where
  core : CoreP y (A y).months
  str : StructP y (A y).months

/-- everything the checkers say about two adjacent non-reform years -/
structure GoodP (A : Astro) (y : Int) : Prop where
  ps : PairS y (A y).months (A (y + 1)).months
  pp : PairP y (A y).months (A (y + 1)).months

theorem goodY_of (A : Astro) (lo hi : Int) (h : AstroOK A lo hi) (y : Int) (hlo : lo ≤ y) (hhi : y ≤ hi)
    (hnr : isReformYear y = false) : GoodY A y :=
  ⟨coreP_year A lo hi h y hlo hhi, structP_year A lo hi h y hlo hhi hnr⟩

theorem goodP_of (A : Astro) (lo hi : Int) (h : AstroOK A lo hi) (y : Int) (hlo : lo ≤ y) (hhi : y < hi)
    (hnr : isReformYear y = false) (hnr' : isReformYear (y + 1) = false) : GoodP A y :=
  ⟨pairS_year A lo hi h y hlo hhi hnr hnr', pairP_year A lo hi h y hlo hhi⟩

theorem fy_mem (l : List MonthRec) (Y : Int) (x : MonthRec) : x ∈ monthsInYear l Y ↔ x ∈ l ∧ x.year = Y := by
  unfold monthsInYear; rw [List.mem_filter, beq_iff_eq]

theorem fy_cons (a : MonthRec) (l : List MonthRec) (Y : Int) :
    monthsInYear (a :: l) Y = if a.year = Y then a :: monthsInYear l Y else monthsInYear l Y := by
  simp only [monthsInYear, List.filter_cons, beq_iff_eq]

theorem dec3 (Y : Int) : ∀ (ms : List MonthRec), ms.Pairwise (fun a b => a.year ≤ b.year) →
    (∀ r ∈ ms, r.year = Y - 1 ∨ r.year = Y ∨ r.year = Y + 1) →
    ms = monthsInYear ms (Y - 1) ++ monthsInYear ms Y ++ monthsInYear ms (Y + 1)
  | [], _, _ => rfl
  | a :: rest, hp, hy => by
    rw [List.pairwise_cons] at hp
    have ih := dec3 Y rest hp.2 (fun r hr => hy r (List.mem_cons_of_mem _ hr))
    have nil : ∀ Z, Z < a.year → monthsInYear rest Z = [] := fun Z hZ =>
      List.filter_eq_nil_iff.2 fun x hx e => by have := hp.1 x hx; have := beq_iff_eq.1 e; omega
    simp only [fy_cons]
    rcases hy a List.mem_cons_self with e | e | e
    · rw [if_pos e, if_neg (by omega), if_neg (by omega)]
      exact congrArg (a :: ·) ih
    · rw [nil (Y - 1) (by omega)] at ih ⊢
      rw [if_neg (by omega), if_pos e, if_neg (by omega)]
      exact congrArg (a :: ·) ih
    · rw [nil (Y - 1) (by omega), nil Y (by omega)] at ih ⊢
      rw [if_neg (by omega), if_neg (by omega), if_pos e]
      exact congrArg (a :: ·) ih

theorem sortedY (y : Int) (ms : List MonthRec) (hc : CoreP y ms) : ms.Pairwise (fun a b => a.year ≤ b.year) :=
  (chain_pairwise ms hc.chain (coreP_pos y ms hc)).imp (fun h => h.2)

theorem dec3_core (Y : Int) (ms : List MonthRec) (hc : CoreP Y ms) :
    ms = monthsInYear ms (Y - 1) ++ monthsInYear ms Y ++ monthsInYear ms (Y + 1) :=
  dec3 Y ms (sortedY Y ms hc) (fun r hr => (hc.recs r hr).2.2.1)

theorem own_distinct (y : Int) (ms : List MonthRec) (hc : CoreP y ms) (Y : Int) :
    (monthsInYear ms Y).Pairwise (fun a b => a.month ≠ b.month) := by
  unfold monthsInYear
  refine List.Pairwise.imp_of_mem ?_ (List.Pairwise.filter _ (labels_pairwise _ hc.distinct))
  intro a b ha hb hab e
  rw [List.mem_filter, beq_iff_eq] at ha hb
  exact hab ⟨by rw [ha.2, hb.2], e.symm⟩

theorem own_len (y : Int) (ms : List MonthRec) (hs : StructP y ms) :
    (monthsInYear ms y).length = 12 ∨ (monthsInYear ms y).length = 13 := by
  have := hs.len
  split at this <;> omega

theorem rim_small (A : Astro) (y : Int) (g : GoodY A y) :
    (monthsInYear (A y).months (y - 1)).length + (monthsInYear (A y).months (y + 1)).length ≤ 3 := by
  have := congrArg List.length (dec3_core y _ g.core)
  rw [List.length_append, List.length_append, g.core.len] at this
  have := own_len y _ g.str
  omega

theorem own_chain (y : Int) (ms : List MonthRec) (hc : CoreP y ms) (i : Nat) (r q : MonthRec)
    (hr : (monthsInYear ms y)[i]? = some r) (hq : (monthsInYear ms y)[i + 1]? = some q) :
    q.first = r.first + r.dayCount := by
  have h1 := getElem?_mid (monthsInYear ms (y - 1)) _ (monthsInYear ms (y + 1)) i r hr
  have h2 := getElem?_mid (monthsInYear ms (y - 1)) _ (monthsInYear ms (y + 1)) (i + 1) q hq
  rw [← dec3_core y ms hc] at h1 h2
  exact ((chainF_iff r q).1 (allAdj_get_nav chainF ms hc.chain _ r q h1 h2)).1

/-- STRUCTURE of a year (read off `yearStructOk`) -/
theorem year_structure (A : Astro) (lo hi : Int) (h : AstroOK A lo hi) (y : Int) (hlo : lo ≤ y) (hhi : y ≤ hi) (hnr : isReformYear y = false) :
    let own := monthsInYear (A y).months y
    (own.filter (fun r => decide (r.month > 0))).map (·.month) = [1,2,3,4,5,6,7,8,9,10,11,12] ∧
    (own.filter (fun r => decide (r.month < 0))).length ≤ 1 ∧
    (∀ i, ∀ r q, own[i]? = some r → own[i+1]? = some q → q.month < 0 → q.month = -r.month) ∧
    (∀ r ∈ own, r.dayCount = 29 ∨ r.dayCount = 30) ∧
    (∀ i r q, own[i]? = some r → own[i+1]? = some q → q.first = r.first + r.dayCount) ∧
    ((353 ≤ yearDayCount (A y).months y ∧ yearDayCount (A y).months y ≤ 355) ∨ (383 ≤ yearDayCount (A y).months y ∧ yearDayCount (A y).months y ≤ 385)) ∧
    ((own.length : Int) = if leapMonthOf (A y).months y = 0 then 12 else 13) := by
  intro own
  have hs := structP_year A lo hi h y hlo hhi hnr
  refine ⟨?_, ?_, ?_, fun r hr => hs.days r ((fy_mem _ _ _).1 hr).1,
    own_chain y _ (coreP_year A lo hi h y hlo hhi), hs.total, hs.len⟩
  · have := seq_pos _ 0 false (Int.le_refl 0) hs.seq
    rwa [List.filter_map] at this
  · have := seq_neg _ 0 false (Int.le_refl 0) hs.seq
    rwa [List.filter_map, List.length_map] at this
  · intro i r q hr hq
    exact (seq_adj _ 0 false (Int.le_refl 0) hs.seq).2 i r.month q.month
      (by rw [List.getElem?_map, hr]; rfl) (by rw [List.getElem?_map, hq]; rfl)

/-- the month tables computed for neighbouring years agree on every month they share -/
theorem neighbours_agree (A : Astro) (lo hi : Int) (h : AstroOK A lo hi) (y : Int) (hlo : lo ≤ y) (hhi : y < hi)
    (hnr : isReformYear y = false) (hnr' : isReformYear (y + 1) = false) (r : MonthRec) :
    (r ∈ (A y).months → r.year = y + 1 → ∃ q, findMonth (A (y+1)).months (y+1) r.month = some q ∧ q.first = r.first ∧ q.dayCount = r.dayCount) ∧
    (r ∈ (A (y+1)).months → r.year = y → ∃ q, findMonth (A y).months y r.month = some q ∧ q.first = r.first ∧ q.dayCount = r.dayCount) := by
  have hp := pairS_year A lo hi h y hlo hhi hnr hnr'
  exact ⟨fun hr e => recordsAgree_spec _ _ _ _ hp.fwd r hr e rfl, fun hr e => recordsAgree_spec _ _ _ _ hp.bwd r hr e rfl⟩

theorem own_last (A : Astro) (y : Int) (g : GoodY A y) :
    ∃ X last, monthsInYear (A y).months y = X ++ [last] ∧ (last.month = 12 ∨ last.month = -12) := by
  rcases List.eq_nil_or_concat (monthsInYear (A y).months y) with e | ⟨X, last, e⟩
  · have := own_len y _ g.str
    rw [e] at this
    cases this <;> contradiction
  · rw [List.concat_eq_append] at e
    refine ⟨X, last, e, seq_last _ 0 false (Int.le_refl 0) g.str.seq last.month ?_⟩
    rw [e, List.map_append, ← List.cons_append]
    exact List.getLast?_concat

theorem own_first (A : Astro) (y : Int) (g : GoodY A y) :
    ∃ first R, monthsInYear (A y).months y = first :: R ∧ first.month = 1 ∧ findMonth (A y).months y 1 = some first := by
  cases ho : monthsInYear (A y).months y with
  | nil =>
    have := own_len y _ g.str
    rw [ho] at this
    cases this <;> contradiction
  | cons first R =>
    have hm : first.month = 1 := by
      have := (seq_adj _ 0 false (Int.le_refl 0) g.str.seq).1 first.month (by rw [ho]; rfl)
      omega
    obtain ⟨m1, m2⟩ := (fy_mem _ _ _).1 (ho ▸ List.mem_cons_self)
    have := findMonth_self _ g.core.distinct first m1
    rw [m2, hm] at this
    exact ⟨first, R, rfl, hm, this⟩

/-- one of the two tables holds both months (`PairS.link`), and there the chain condition applies -/
theorem glue (A : Astro) (y : Int) (g : GoodY A y) (g' : GoodY A (y + 1)) (gp : GoodP A y)
    (X : List MonthRec) (last first : MonthRec) (R : List MonthRec)
    (hX : monthsInYear (A y).months y = X ++ [last]) (hR : monthsInYear (A (y + 1)).months (y + 1) = first :: R) :
    first.first = last.first + last.dayCount := by
  rcases gp.ps.link with l | l
  · -- table y+1 begins with the last month(s) of year y
    obtain ⟨X', c, hc⟩ : ∃ X' c, monthsInYear (A (y + 1)).months y = X' ++ [c] := by
      rcases List.eq_nil_or_concat (monthsInYear (A (y + 1)).months y) with e | ⟨X', c, e⟩
      · exact absurd e l
      · exact ⟨X', c, by rw [e, List.concat_eq_append]⟩
    have hs := gp.ps.suf
    rw [hc, hX, List.reverse_append, List.reverse_append] at hs
    have e : c.first + c.dayCount = last.first + last.dayCount :=
      congrArg (fun r => r.first + r.dayCount) (List.cons_prefix_cons.1 (isPrefixOf'_key _ _ hs)).1
    have hch := g'.core.chain
    rw [dec3_core (y + 1) _ g'.core, Int.add_sub_cancel, hc, hR, List.append_assoc, List.append_assoc] at hch
    rw [← e]
    exact ((chainF_iff _ _).1 (allAdj_mid chainF X' c first _ hch)).1
  · -- table y ends with the first month(s) of year y+1
    obtain ⟨b, P, hb⟩ := List.exists_cons_of_ne_nil l
    have hp := gp.ps.pre
    rw [hb, hR] at hp
    have e : b.first = first.first := congrArg (·.first) (List.cons_prefix_cons.1 (isPrefixOf'_key _ _ hp)).1
    have hch := g.core.chain
    rw [dec3_core y _ g.core, hX, hb, List.append_assoc, List.append_assoc, ← List.append_assoc] at hch
    rw [← e]
    exact ((chainF_iff _ _).1 (allAdj_mid chainF _ last b P hch)).1

/-- NEW YEAR'S EVE is followed by day 1 of month 1 of the next year -/
theorem new_years_eve (A : Astro) (lo hi : Int) (h : AstroOK A lo hi) (y : Int) (hlo : lo ≤ y) (hhi : y < hi)
    (hnr : isReformYear y = false) (hnr' : isReformYear (y + 1) = false) :
    ∃ last first, (monthsInYear (A y).months y).getLast? = some last ∧ findMonth (A (y+1)).months (y+1) 1 = some first ∧
      (last.month = 12 ∨ last.month = -12) ∧ first.first = last.first + last.dayCount := by
  have g := goodY_of A lo hi h y hlo (by omega) hnr
  have g' := goodY_of A lo hi h (y + 1) (by omega) (by omega) hnr'
  have gp := goodP_of A lo hi h y hlo hhi hnr hnr'
  obtain ⟨X, last, hX, hm⟩ := own_last A y g
  obtain ⟨first, R, hR, _, hf⟩ := own_first A (y + 1) g'
  exact ⟨last, first, by rw [hX, List.getLast?_concat], hf, hm, glue A y g g' gp X last first R hX hR⟩

/-- `succMonth` of the last own month of year y is the first own month (month 1) of year y+1;
otherwise the next own month of the same year -/
def succMonth (A : Astro) (y m : Int) : Option (Int × Int) :=
  let own := monthsInYear (A y).months y
  match own.findIdx? (fun r => r.month == m) with
  | none => none
  | some i => match own[i+1]? with
    | some q => some (y, q.month)
    | none => (monthsInYear (A (y+1)).months (y+1)).head?.map (fun q => (y + 1, q.month))

theorem succ_same (A : Astro) (y : Int) (g : GoodY A y) (k : Nat) (a b : MonthRec)
    (ha : (monthsInYear (A y).months y)[k]? = some a) (hb : (monthsInYear (A y).months y)[k + 1]? = some b) :
    succMonth A a.year a.month = some (b.year, b.month) ∧ b.first = a.first + a.dayCount := by
  rw [((fy_mem _ _ _).1 (List.mem_of_getElem? ha)).2, ((fy_mem _ _ _).1 (List.mem_of_getElem? hb)).2]
  unfold succMonth
  simp only
  rw [findIdx?_of_key (·.month) _ k a (own_distinct y _ g.core y) ha]
  simp only [hb]
  exact ⟨trivial, own_chain y _ g.core k a b ha hb⟩

theorem succ_cross (A : Astro) (y : Int) (g : GoodY A y) (g' : GoodY A (y + 1)) (gp : GoodP A y) (k : Nat) (a b : MonthRec)
    (ha : (monthsInYear (A y).months y)[k]? = some a) (hk : k + 1 = (monthsInYear (A y).months y).length)
    (hb : (monthsInYear (A (y + 1)).months (y + 1))[0]? = some b) :
    succMonth A a.year a.month = some (b.year, b.month) ∧ b.first = a.first + a.dayCount := by
  rw [((fy_mem _ _ _).1 (List.mem_of_getElem? ha)).2, ((fy_mem _ _ _).1 (List.mem_of_getElem? hb)).2]
  unfold succMonth
  simp only
  rw [findIdx?_of_key (·.month) _ k a (own_distinct y _ g.core y) ha]
  simp only [List.getElem?_eq_none (Nat.le_of_eq hk.symm), List.head?_eq_getElem?, hb, Option.map_some]
  refine ⟨trivial, ?_⟩
  obtain ⟨R, hR⟩ := List.head?_eq_some_iff.1 (List.head?_eq_getElem?.trans hb)
  obtain ⟨X, last, hX, _⟩ := own_last A y g
  rw [hX, List.length_append, List.length_singleton] at hk
  rw [hX, show k = X.length by omega, List.getElem?_append_right (Nat.le_refl _), Nat.sub_self] at ha
  cases ha
  exact glue A y g g' gp X a b R hX hR

theorem succ_year (A : Astro) (y m y' m' : Int) (h : succMonth A y m = some (y', m')) : y' = y ∨ y' = y + 1 := by
  unfold succMonth at h
  simp only at h
  split at h
  · cases h
  · split at h
    · cases h; exact Or.inl rfl
    · cases hh : (monthsInYear (A (y + 1)).months (y + 1)).head? with
      | none => rw [hh] at h; cases h
      | some q => rw [hh] at h; cases h; exact Or.inr rfl

/-- the own months of years `y`, …, `y+k-1`, without their index -/
def yearLine (A : Astro) : Int → Nat → List MonthRec
  | _, 0 => []
  | y, k + 1 => (monthsInYear (A y).months y).map MonthRec.key ++ yearLine A (y + 1) k

theorem line_year (A : Astro) : ∀ (k : Nat) (y : Int) (l : MonthRec), l ∈ yearLine A y k → y ≤ l.year ∧ l.year < y + k
  | 0, y, l, h => by cases h
  | k + 1, y, l, h => by
    rw [yearLine, List.mem_append, List.mem_map] at h
    rcases h with ⟨r, hr, rfl⟩ | h
    · have : r.year = y := ((fy_mem _ _ _).1 hr).2
      show y ≤ r.year ∧ r.year < y + ((k + 1 : Nat) : Int)
      omega
    · have := line_year A k (y + 1) l h
      omega

/-- the years `y`, …, `y+k-1` are good, and so is every pair of neighbours among them -/
def GoodRun (A : Astro) : Int → Nat → Prop
  | _, 0 => True
  | y, k + 1 => GoodY A y ∧ (0 < k → GoodP A y) ∧ GoodRun A (y + 1) k

theorem line_nodup (A : Astro) : ∀ (k : Nat) (y : Int), GoodRun A y k → (yearLine A y k).Nodup
  | 0, _, _ => List.nodup_nil
  | k + 1, y, ⟨g, _, G⟩ => by
    rw [yearLine, List.nodup_append]
    refine ⟨(own_distinct y _ g.core y).map MonthRec.key (fun a b h e => h (congrArg (·.month) e)), line_nodup A k (y + 1) G, ?_⟩
    intro a ha b hb e
    subst e
    obtain ⟨r, hr, rfl⟩ := List.mem_map.1 ha
    have : r.year = y := ((fy_mem _ _ _).1 hr).2
    have : y + 1 ≤ r.year := (line_year A k (y + 1) _ hb).1
    omega

theorem line_own (A : Astro) : ∀ (k : Nat) (y : Int), GoodRun A y k → ∀ l ∈ yearLine A y k,
    ∃ t, findMonth (A l.year).months l.year l.month = some t ∧ MonthRec.key t = l
  | 0, _, _, l, h => by cases h
  | k + 1, y, ⟨g, _, G⟩, l, h => by
    rw [yearLine, List.mem_append, List.mem_map] at h
    rcases h with ⟨t, ht, rfl⟩ | h
    · obtain ⟨tm, ty⟩ := (fy_mem _ _ _).1 ht
      have := findMonth_self _ g.core.distinct t tm
      rw [ty] at this
      exact ⟨t, by show findMonth (A t.year).months t.year t.month = some t; rw [ty]; exact this, rfl⟩
    · exact line_own A k (y + 1) G l h

theorem line_succ (A : Astro) : ∀ (k : Nat) (y : Int), GoodRun A y k →
    ∀ (j : Nat) (l l' : MonthRec), (yearLine A y k)[j]? = some l → (yearLine A y k)[j + 1]? = some l' →
      succMonth A l.year l.month = some (l'.year, l'.month) ∧ l'.first = l.first + l.dayCount
  | 0, _, _, j, l, l', hl, _ => by cases hl
  | k + 1, y, ⟨g, gp, G⟩, j, l, l', hl, hl' => by
    rw [yearLine] at hl hl'
    by_cases c : j < ((monthsInYear (A y).months y).map MonthRec.key).length
    · rw [List.getElem?_append_left c] at hl
      obtain ⟨a, ha, rfl⟩ := map_get_inv _ _ _ _ hl
      by_cases c2 : j + 1 < ((monthsInYear (A y).months y).map MonthRec.key).length
      · rw [List.getElem?_append_left c2] at hl'
        obtain ⟨b, hb, rfl⟩ := map_get_inv _ _ _ _ hl'
        exact succ_same A y g j a b ha hb
      · -- the right neighbour of the last month of year `y` is the first month of year `y+1`
        have e : j + 1 = ((monthsInYear (A y).months y).map MonthRec.key).length := by omega
        rw [e, List.getElem?_append_right (Nat.le_refl _), Nat.sub_self] at hl'
        cases k with
        | zero => cases hl'
        | succ k =>
          have := own_len (y + 1) _ G.1.str
          rw [yearLine, List.getElem?_append_left (by rw [List.length_map]; omega)] at hl'
          obtain ⟨b, hb, rfl⟩ := map_get_inv _ _ _ _ hl'
          exact succ_cross A y g G.1 (gp (Nat.succ_pos k)) j a b ha (e.trans (List.length_map _)) hb
    · obtain ⟨j', rfl⟩ : ∃ j', j = ((monthsInYear (A y).months y).map MonthRec.key).length + j' := ⟨j - ((monthsInYear (A y).months y).map MonthRec.key).length, by omega⟩
      rw [List.getElem?_append_right (Nat.le_add_right _ _), Nat.add_sub_cancel_left] at hl
      rw [Nat.add_assoc, List.getElem?_append_right (Nat.le_add_right _ _), Nat.add_sub_cancel_left] at hl'
      exact line_succ A k (y + 1) G j' l l' hl hl'

theorem line_add (A : Astro) : ∀ (k1 k2 : Nat) (y : Int), yearLine A y (k1 + k2) = yearLine A y k1 ++ yearLine A (y + k1) k2
  | 0, k2, y => by simp [yearLine]
  | k1 + 1, k2, y => by
    rw [Nat.add_right_comm, yearLine, yearLine, line_add A k1 k2 (y + 1), List.append_assoc,
      show y + 1 + (k1 : Int) = y + ((k1 + 1 : Nat) : Int) by omega]

theorem line_infix (A : Astro) (lo y0 : Int) (K k : Nat) (h1 : lo ≤ y0) (h2 : y0 + k ≤ lo + K) :
    yearLine A y0 k <:+: yearLine A lo K := by
  obtain ⟨k1, rfl⟩ : ∃ k1 : Nat, y0 = lo + k1 := ⟨(y0 - lo).toNat, by omega⟩
  obtain ⟨k2, rfl⟩ : ∃ k2 : Nat, K = k1 + (k + k2) := ⟨K - k1 - k, by omega⟩
  rw [line_add, line_add]
  exact List.infix_append' _ _ _

/-- the head of table `y0+1` is a suffix of year `y0`'s own months, its tail a prefix of year `y0+2`'s -/
theorem table_infix (A : Astro) (y0 : Int) (g : GoodY A (y0 + 1)) (p0 : GoodP A y0) (p1 : GoodP A (y0 + 1)) :
    (A (y0 + 1)).months.map MonthRec.key <:+: yearLine A y0 3 := by
  have hd := congrArg (List.map MonthRec.key) (dec3_core (y0 + 1) _ g.core)
  rw [Int.add_sub_cancel, List.map_append, List.map_append] at hd
  obtain ⟨X, hX⟩ := isPrefixOf'_reverse_key _ _ p0.ps.suf
  obtain ⟨Z, hZ⟩ := isPrefixOf'_key _ _ p1.ps.pre
  refine ⟨X, Z, ?_⟩
  rw [hd]
  simp only [yearLine, ← hX, ← hZ, List.append_assoc, List.append_nil]

/-- what the walks use of a line `L` of the months of the good years `lo..hi`; `inner` and `pos` speak of the table of
an inner year, the only kind a walk may enter -/
structure MonthLine (A : Astro) (lo hi : Int) (L : List MonthRec) : Prop where
  nodup : L.Nodup
  own : ∀ l ∈ L, ∃ t, findMonth (A l.year).months l.year l.month = some t ∧ MonthRec.key t = l
  succ : ∀ (j : Nat) (l l' : MonthRec), L[j]? = some l → L[j + 1]? = some l' →
    succMonth A l.year l.month = some (l'.year, l'.month) ∧ l'.first = l.first + l.dayCount
  inner : ∀ y0, lo ≤ y0 → y0 + 1 < hi →
    GoodY A y0 ∧ GoodY A (y0 + 1) ∧ GoodY A (y0 + 1 + 1) ∧ GoodP A y0 ∧ GoodP A (y0 + 1)
  pos : ∀ y, lo < y → y < hi →
    ∃ c : Nat, ∀ (i : Nat) (a : MonthRec), (A y).months[i]? = some a → L[c + i]? = some (MonthRec.key a)

theorem goodRun_of (A : Astro) (lo hi : Int) (G : ∀ Y, lo ≤ Y → Y ≤ hi → GoodY A Y) (GP : ∀ Y, lo ≤ Y → Y < hi → GoodP A Y) :
    ∀ (k : Nat) (y : Int), lo ≤ y → (0 < k → y + k ≤ hi + 1) → GoodRun A y k
  | 0, _, _, _ => trivial
  | k + 1, y, h1, h2 => by
    have := h2 (Nat.succ_pos k)
    exact ⟨G y h1 (by omega), fun _ => GP y h1 (by omega), goodRun_of A lo hi G GP k (y + 1) (by omega) (by omega)⟩

theorem monthLine_of (A : Astro) (lo hi : Int) (h : AstroOK A lo hi) (hnr : ∀ y, lo ≤ y → y ≤ hi → isReformYear y = false) :
    ∃ L, MonthLine A lo hi L := by
  have G : ∀ Y, lo ≤ Y → Y ≤ hi → GoodY A Y := fun Y h1 h2 => goodY_of A lo hi h Y h1 h2 (hnr Y h1 h2)
  have GP : ∀ Y, lo ≤ Y → Y < hi → GoodP A Y := fun Y h1 h2 =>
    goodP_of A lo hi h Y h1 h2 (hnr Y h1 (by omega)) (hnr (Y + 1) (by omega) (by omega))
  have GL := goodRun_of A lo hi G GP (hi - lo + 1).toNat lo (Int.le_refl lo) (by omega)
  refine ⟨yearLine A lo (hi - lo + 1).toNat, line_nodup A _ lo GL, line_own A _ lo GL, line_succ A _ lo GL,
    fun y0 h1 h2 => ⟨G _ h1 (by omega), G _ (by omega) (by omega), G _ (by omega) (by omega), GP _ h1 (by omega), GP _ (by omega) h2⟩,
    fun y h1 h2 => ?_⟩
  obtain ⟨y0, rfl⟩ : ∃ y0, y = y0 + 1 := ⟨y - 1, by omega⟩
  obtain ⟨c, hc⟩ := infix_getElem? ((table_infix A y0 (G _ (by omega) (by omega)) (GP y0 (by omega) (by omega))
    (GP _ (by omega) h2)).trans (line_infix A lo y0 (hi - lo + 1).toNat 3 (by omega) (by omega)))
  exact ⟨c, fun i a h => hc i _ (map_get MonthRec.key _ i a h)⟩

theorem MonthLine.inj {A : Astro} {lo hi : Int} {L : List MonthRec} (M : MonthLine A lo hi L) {j j' : Nat}
    {l : MonthRec} (h : L[j]? = some l) (h' : L[j']? = some l) : j = j' :=
  (List.getElem?_inj (List.getElem?_eq_some_iff.1 h).1 M.nodup).1 (h.trans h'.symm)

theorem MonthLine.year {A : Astro} {lo hi : Int} {L : List MonthRec} (M : MonthLine A lo hi L) :
    ∀ (d j : Nat) (l l' : MonthRec), L[j]? = some l → L[j + d]? = some l' → l.year ≤ l'.year ∧ l'.year ≤ l.year + d
  | 0, j, l, l', h, h' => by
    cases h.symm.trans h'
    omega
  | d + 1, j, l, l', h, h' => by
    obtain ⟨m, hm⟩ : ∃ m, L[j + d]? = some m :=
      ⟨_, List.getElem?_eq_getElem (Nat.lt_of_succ_lt (List.getElem?_eq_some_iff.1 h').1)⟩
    have := M.year d j l m h hm
    have := succ_year A _ _ _ _ (M.succ (j + d) m l' hm h').1
    omega

/-- the last `n` records of table `y` are the first `n` of table `y+1` -/
theorem tables_overlap (A : Astro) (y : Int) (g : GoodY A y) (g' : GoodY A (y + 1)) (gp : GoodP A y) :
    ∃ m n, m + n = 15 ∧ 1 ≤ n ∧ n ≤ 6 ∧ ∀ j, j < n →
      ∃ a b, (A y).months[m + j]? = some a ∧ (A (y + 1)).months[j]? = some b ∧ MonthRec.key a = MonthRec.key b := by
  obtain ⟨U, O, V, hd, hd', hO⟩ : ∃ U O V, (A y).months.map MonthRec.key = U ++ O ∧ (A (y + 1)).months.map MonthRec.key = O ++ V ∧
      O.length = (monthsInYear (A (y + 1)).months y).length + (monthsInYear (A y).months (y + 1)).length := by
    have hd := congrArg (List.map MonthRec.key) (dec3_core y _ g.core)
    have hd' := congrArg (List.map MonthRec.key) (dec3_core (y + 1) _ g'.core)
    obtain ⟨W, hW⟩ := isPrefixOf'_reverse_key _ _ gp.ps.suf
    obtain ⟨Z, hZ⟩ := isPrefixOf'_key _ _ gp.ps.pre
    rw [List.map_append, List.map_append, ← hW, ← List.append_assoc, List.append_assoc] at hd
    rw [Int.add_sub_cancel, List.map_append, List.map_append, ← hZ, ← List.append_assoc, List.append_assoc] at hd'
    exact ⟨_, _, _, hd, hd', by rw [List.length_append, List.length_map, List.length_map]⟩
  have r := rim_small A y g
  have r' := rim_small A (y + 1) g'
  rw [Int.add_sub_cancel] at r'
  refine ⟨U.length, O.length, by rw [← List.length_append, ← hd, List.length_map, g.core.len], ?_, by omega, fun j hj => ?_⟩
  · rcases gp.ps.link with l | l <;> have := List.length_pos_iff.2 l <;> omega
  · obtain ⟨b, hb⟩ : ∃ b, (A (y + 1)).months[j]? = some b := ⟨_, List.getElem?_eq_getElem (by rw [g'.core.len]; omega)⟩
    have e := map_get MonthRec.key _ j b hb
    rw [hd', List.getElem?_append_left hj, ← Nat.add_sub_cancel_left (n := U.length) (m := j),
      ← List.getElem?_append_right (Nat.le_add_right _ _), ← hd] at e
    obtain ⟨a, ha, e'⟩ := map_get_inv MonthRec.key _ _ _ e
    exact ⟨a, b, ha, hb, e'⟩

theorem indexIn_get (y : Int) (ms : List MonthRec) (hc : CoreP y ms) (i : Nat) (a : MonthRec) (ha : ms[i]? = some a) (d : Nat) :
    indexIn ms a.year a.month d = i := by
  unfold indexIn
  rw [show ms.findIdx? (fun r => r.year == a.year && r.month == a.month) =
      ms.findIdx? (fun r => (r.year, r.month) == (a.year, a.month)) from rfl,
    findIdx?_of_key (fun r => (r.year, r.month)) ms i a ((labels_pairwise ms hc.distinct).imp fun h e =>
      h ⟨(congrArg Prod.fst e).symm, (congrArg Prod.snd e).symm⟩) ha]

/-- `e` is 1 while `a` may be one of the last two records of its table, which only the first table allows: every later
table is entered at index 12 or before, so from then on each year and each unit of fuel uses up two of `rest` -/
theorem fwd_main (A : Astro) (lo hi : Int) (L : List MonthRec) (M : MonthLine A lo hi L) :
    ∀ (fuel : Nat) (rest : Int) (ny : Int) (i : Nat) (a : MonthRec) (dflt j : Nat) (e : Int),
      0 ≤ rest → lo < ny → (A ny).months[i]? = some a → L[j]? = some (MonthRec.key a) →
      0 ≤ e → (i ≤ 12 ∨ 1 ≤ e) → 2 * (ny + e) + rest < 2 * hi → rest + 1 + e ≤ (fuel : Int) →
      ∃ (q : MonthRec) (j' : Nat), nextFwd A fuel rest ny a.year a.month dflt = some q ∧ (j' : Int) = j + rest ∧
        L[j']? = some (MonthRec.key q)
  | 0, rest, ny, i, a, dflt, j, e, h0, hlo, ha, hj, he, hi12, hR, hF => by omega
  | fuel + 1, rest, ny, i, a, dflt, j, e, h0, hlo, ha, hj, he, hi12, hR, hF => by
    obtain ⟨y0, rfl⟩ : ∃ y0, ny = y0 + 1 := ⟨ny - 1, by omega⟩
    obtain ⟨k, rfl⟩ := Int.eq_ofNat_of_zero_le h0
    have hhi : y0 + 1 < hi := by omega
    obtain ⟨_, g, g2, _, p1⟩ := M.inner y0 (by omega) hhi
    have il : i < 15 := g.core.len ▸ (List.getElem?_eq_some_iff.1 ha).1
    obtain ⟨c, hc⟩ := M.pos (y0 + 1) hlo hhi
    obtain rfl : c + i = j := M.inj (hc i a ha) hj
    unfold nextFwd
    simp only [Int.toNat_natCast]
    rw [indexIn_get (y0 + 1) _ g.core i a ha, g.core.len]
    by_cases c1 : (k : Int) < ((15 : Nat) : Int) - (i : Int) - 1
    · rw [if_pos c1]
      have hlt : i + k < (A (y0 + 1)).months.length := by rw [g.core.len]; omega
      exact ⟨_, c + (i + k), List.getElem?_eq_getElem hlt, by omega, hc _ _ (List.getElem?_eq_getElem hlt)⟩
    · rw [if_neg c1]
      obtain ⟨last, hl⟩ : ∃ last, (A (y0 + 1)).months[14]? = some last :=
        ⟨_, List.getElem?_eq_getElem (g.core.len ▸ (by decide : 14 < 15))⟩
      have hgl : (A (y0 + 1)).months.getLast? = some last := by rw [List.getLast?_eq_getElem?, g.core.len]; exact hl
      simp only [hgl]
      obtain ⟨m, n, _, _, _, hn⟩ := tables_overlap A (y0 + 1) g g2 p1
      obtain ⟨_, a2, hl', ha2, e'⟩ := hn (n - 1) (by omega)
      rw [show m + (n - 1) = 14 by omega, hl] at hl'
      cases hl'
      rw [show last.year = a2.year from congrArg (·.year) e', show last.month = a2.month from congrArg (·.month) e']
      obtain ⟨q, j', q1, q2, q3⟩ := fwd_main A lo hi L M fuel ((k : Int) - (((15 : Nat) : Int) - (i : Int) - 1)) (y0 + 1 + 1) (n - 1) a2 i
        (c + 14) 0 (by omega) (by omega) ha2 (e' ▸ hc 14 last hl) (Int.le_refl 0) (Or.inl (by omega)) (by omega) (by omega)
      exact ⟨q, j', q1, by omega, q3⟩

/-- as `fwd_main`, with index 2 or later; a walk that stays inside its table (`rest ≤ i`) needs nothing of the years below -/
theorem bwd_main (A : Astro) (lo hi : Int) (L : List MonthRec) (M : MonthLine A lo hi L) :
    ∀ (fuel : Nat) (rest : Int) (ny : Int) (i : Nat) (a : MonthRec) (dflt j : Nat) (e : Int),
      0 ≤ rest → ny < hi → (A ny).months[i]? = some a → L[j]? = some (MonthRec.key a) →
      0 ≤ e → (2 ≤ i ∨ 1 ≤ e) → (2 * lo + rest < 2 * (ny - e) ∨ (rest ≤ (i : Int) ∧ lo < ny)) → rest + 1 + e ≤ (fuel : Int) →
      ∃ (q : MonthRec) (j' : Nat), nextBwd A fuel rest ny a.year a.month dflt = some q ∧ (j' : Int) = j - rest ∧
        L[j']? = some (MonthRec.key q)
  | 0, rest, ny, i, a, dflt, j, e, h0, hhi, ha, hj, he, hi2, hR, hF => by omega
  | fuel + 1, rest, ny, i, a, dflt, j, e, h0, hhi, ha, hj, he, hi2, hR, hF => by
    obtain ⟨y0, rfl⟩ : ∃ y0, ny = y0 + 1 := ⟨ny - 1, by omega⟩
    obtain ⟨k, rfl⟩ := Int.eq_ofNat_of_zero_le h0
    have hlo : lo ≤ y0 := by omega
    obtain ⟨g0, g, _, p0, _⟩ := M.inner y0 hlo hhi
    have il : i < 15 := g.core.len ▸ (List.getElem?_eq_some_iff.1 ha).1
    obtain ⟨c, hc⟩ := M.pos (y0 + 1) (Int.lt_add_one_iff.2 hlo) hhi
    obtain rfl : c + i = j := M.inj (hc i a ha) hj
    unfold nextBwd
    simp only [Int.toNat_natCast]
    rw [indexIn_get (y0 + 1) _ g.core i a ha]
    by_cases c1 : (k : Int) ≤ (i : Int)
    · rw [if_pos c1]
      have hlt : i - k < (A (y0 + 1)).months.length := by rw [g.core.len]; omega
      exact ⟨_, c + (i - k), List.getElem?_eq_getElem hlt, by omega, hc _ _ (List.getElem?_eq_getElem hlt)⟩
    · rw [if_neg c1]
      obtain ⟨head, hh⟩ : ∃ head, (A (y0 + 1)).months[0]? = some head :=
        ⟨_, List.getElem?_eq_getElem (g.core.len ▸ (by decide : 0 < 15))⟩
      simp only [List.head?_eq_getElem?, hh, Int.add_sub_cancel]
      obtain ⟨m, n, _, n1, _, hn⟩ := tables_overlap A y0 g0 g p0
      obtain ⟨a2, _, ha2, hh', e'⟩ := hn 0 n1
      rw [hh] at hh'
      cases hh'
      rw [show head.year = a2.year from congrArg (·.year) e'.symm, show head.month = a2.month from congrArg (·.month) e'.symm]
      obtain ⟨q, j', q1, q2, q3⟩ := bwd_main A lo hi L M fuel ((k : Int) - (i : Int)) y0 (m + 0) a2 i c 0
        (by omega) (by omega) ha2 (e' ▸ hc 0 head hh) (Int.le_refl 0) (Or.inl (by omega)) (by omega) (by omega)
      exact ⟨q, j', q1, by omega, q3⟩

theorem MonthLine.find {A : Astro} {lo hi : Int} {L : List MonthRec} (M : MonthLine A lo hi L) (y m : Int) (r : MonthRec)
    (hr : findMonth (A y).months y m = some r) (hlo : lo < y) (hhi : y < hi) : ∃ j : Nat, L[j]? = some (MonthRec.key r) := by
  obtain ⟨i, hidx⟩ := List.getElem?_of_mem (findMonth_some _ _ _ _ hr).1
  obtain ⟨c, hc⟩ := M.pos y hlo hhi
  exact ⟨c + i, hc i r hidx⟩

/-- `Next(n)` is `n` places along the line, for `-na ≤ n ≤ pa` with `y - na`, …, `y + pa` inner years; a walk back that
stays inside table `y` needs only `y` to be one -/
theorem monthNext_pos (A : Astro) (lo hi : Int) (L : List MonthRec) (M : MonthLine A lo hi L) (y m n na pa : Int)
    (hna : 0 ≤ na) (hn : -na ≤ n) (hpa : 0 ≤ pa) (hn' : n ≤ pa) (r : MonthRec) (hr : findMonth (A y).months y m = some r)
    (hlo : lo < y) (hlo' : lo < y - na ∨ ∀ i : Nat, (A y).months[i]? = some r → -n ≤ i) (hhi : y + pa < hi)
    (j : Nat) (hj : L[j]? = some (MonthRec.key r)) :
    ∃ (q : MonthRec) (j' : Nat), monthNext A y m n = some q ∧ (j' : Int) = j + n ∧ L[j']? = some (MonthRec.key q) ∧
      y - na ≤ q.year ∧ q.year ≤ y + pa := by
  obtain ⟨rm, ry, rmo⟩ := findMonth_some _ _ _ _ hr
  obtain ⟨i, hidx⟩ := List.getElem?_of_mem rm
  have hy : y < hi := by omega
  unfold monthNext
  by_cases c0 : n = 0
  · subst c0
    rw [if_pos rfl]
    exact ⟨r, j, hr, (Int.add_zero _).symm, hj, by omega, by omega⟩
  · rw [if_neg c0]
    by_cases c1 : n > 0
    · obtain ⟨q, j', q1, q2, q3⟩ := fwd_main A lo hi L M (n.toNat + 2) n y i r 0 j 1 (by omega) hlo hidx hj
        (by decide) (Or.inr (Int.le_refl 1)) (by omega) (by omega)
      rw [ry, rmo] at q1
      have hy : r.year ≤ q.year ∧ q.year ≤ r.year + n.toNat :=
        M.year n.toNat j (MonthRec.key r) (MonthRec.key q) hj (by rwa [show j + n.toNat = j' by omega])
      rw [if_pos c1]
      exact ⟨q, j', q1, q2, q3, by omega, by omega⟩
    · have hR : 2 * lo + -n < 2 * (y - 1) ∨ (-n ≤ (i : Int) ∧ lo < y) := by
        rcases hlo' with h | h
        · omega
        · exact Or.inr ⟨h i hidx, hlo⟩
      obtain ⟨q, j', q1, q2, q3⟩ := bwd_main A lo hi L M (n.natAbs + 2) (-n) y i r 0 j 1 (by omega) hy hidx hj
        (by decide) (Or.inr (Int.le_refl 1)) hR (by omega)
      rw [ry, rmo] at q1
      have hy : q.year ≤ r.year ∧ r.year ≤ q.year + (-n).toNat :=
        M.year (-n).toNat j' (MonthRec.key q) (MonthRec.key r) q3 (by rwa [show j' + (-n).toNat = j by omega])
      rw [if_neg c1]
      exact ⟨q, j', q1, by omega, q3, by omega, by omega⟩

/-- consecutive records of one table are consecutive months -/
theorem window (A : Astro) (ny : Int) (gm : GoodY A (ny - 1)) (g : GoodY A ny) (gn : GoodY A (ny + 1))
    (gpm : GoodP A (ny - 1)) (gp : GoodP A ny) (i : Nat) (a b : MonthRec)
    (ha : (A ny).months[i]? = some a) (hb : (A ny).months[i + 1]? = some b) :
    succMonth A a.year a.month = some (b.year, b.month) := by
  obtain ⟨y0, rfl⟩ : ∃ y0, ny = y0 + 1 := ⟨ny - 1, by omega⟩
  rw [Int.add_sub_cancel] at gm gpm
  obtain ⟨c, hc⟩ := infix_getElem? (table_infix A y0 g gpm gp)
  exact (line_succ A 3 y0 ⟨gm, fun _ => gpm, g, fun _ => gp, gn, fun h => absurd h (by decide), trivial⟩ (c + i) (MonthRec.key a) (MonthRec.key b)
    (hc i _ (map_get MonthRec.key _ i a ha)) (hc (i + 1) _ (map_get MonthRec.key _ (i + 1) b hb))).1

theorem next_add_gen (A : Astro) (lo hi : Int) (h : AstroOK A lo hi) (hnr : ∀ y, lo ≤ y → y ≤ hi → isReformYear y = false)
    (y m a b : Int) (hlo : lo < y - (-a).toNat - (-b).toNat) (hhi : y + a.toNat + b.toNat < hi) (r : MonthRec)
    (hr : findMonth (A y).months y m = some r) :
    ∃ p q, monthNext A y m a = some p ∧ monthNext A y m (a + b) = some q ∧
      (monthNext A p.year p.month b).map (fun t => (t.year, t.month, t.first)) = some (q.year, q.month, q.first) := by
  obtain ⟨L, M⟩ := monthLine_of A lo hi h hnr
  -- of `toNat` only `x ≤ x.toNat` is used
  have a1 := Int.self_le_toNat (-a); have b1 := Int.self_le_toNat (-b)
  have a2 := Int.self_le_toNat a; have b2 := Int.self_le_toNat b
  generalize (-a).toNat = na, (-b).toNat = nb, a.toNat = pa, b.toNat = pb at *
  have l1 : lo < y := by omega
  obtain ⟨j, hj⟩ := M.find y m r hr l1 (by omega)
  obtain ⟨p, jp, p1, p2, p3, py, py'⟩ := monthNext_pos A lo hi L M y m a na pa
    (Int.natCast_nonneg na) (by omega) (Int.natCast_nonneg pa) a2 r hr l1 (Or.inl (by omega)) (by omega) j hj
  obtain ⟨t, t1, t2⟩ := M.own _ (List.mem_of_getElem? p3)
  obtain ⟨q1, j1, q11, q12, q13, _⟩ := monthNext_pos A lo hi L M p.year p.month b nb pb
    (Int.natCast_nonneg nb) (by omega) (Int.natCast_nonneg pb) b2 t t1 (by omega) (Or.inl (by omega)) (by omega) jp (t2 ▸ p3)
  obtain ⟨q2, j2, q21, q22, q23, _⟩ := monthNext_pos A lo hi L M y m (a + b) (na + nb) (pa + pb)
    (by omega) (by omega) (by omega) (by omega) r hr l1 (Or.inl (by omega)) (by omega) j hj
  obtain rfl : j1 = j2 := by omega
  have e := congrArg (fun k : MonthRec => some (k.year, k.month, k.first)) (Option.some.inj (q13.symm.trans q23))
  exact ⟨p, q2, p1, q21, by rw [q11]; exact e⟩

/-- one step forward of `monthNext` is `succMonth`, and the record returned is the one year y's (resp. y+1's) own table holds for that label -/
theorem next_one (A : Astro) (lo hi : Int) (h : AstroOK A lo hi) (hnr : ∀ y, lo ≤ y → y ≤ hi → isReformYear y = false)
    (y m : Int) (hlo : lo < y) (hhi : y + 1 < hi) (r : MonthRec) (hr : findMonth (A y).months y m = some r) :
    ∃ q y' m', succMonth A y m = some (y', m') ∧ monthNext A y m 1 = some q ∧ q.year = y' ∧ q.month = m' ∧
      q.first = r.first + r.dayCount ∧ (findMonth (A y').months y' m').map (fun t => (t.first, t.dayCount)) = some (q.first, q.dayCount) := by
  obtain ⟨L, M⟩ := monthLine_of A lo hi h hnr
  obtain ⟨_, ry, rmo⟩ := findMonth_some _ _ _ _ hr
  obtain ⟨j, hj⟩ := M.find y m r hr hlo (by omega)
  obtain ⟨q, j', q1, q2, q3, _⟩ := monthNext_pos A lo hi L M y m 1 0 1 (by decide) (by decide) (by decide) (by decide)
    r hr hlo (Or.inl (by rwa [Int.sub_zero])) hhi j hj
  obtain rfl : j' = j + 1 := by omega
  obtain ⟨hs, hf⟩ := M.succ j (MonthRec.key r) (MonthRec.key q) hj q3
  obtain ⟨t, t1, t2⟩ := M.own _ (List.mem_of_getElem? q3)
  have e := congrArg (fun k : MonthRec => some (k.first, k.dayCount)) t2
  exact ⟨q, q.year, q.month, ry ▸ rmo ▸ hs, q1, rfl, rfl, hf,
    by rw [show findMonth (A q.year).months q.year q.month = some t from t1]; exact e⟩

/-- moving n months = moving one month n times (n ≥ 0), as long as the walk stays inside (lo, hi) -/
theorem next_iter (A : Astro) (lo hi : Int) (h : AstroOK A lo hi) (hnr : ∀ y, lo ≤ y → y ≤ hi → isReformYear y = false)
    (y m : Int) (n : Nat) (hlo : lo < y) (hhi : y + (n : Int) + 1 < hi) (r : MonthRec) (hr : findMonth (A y).months y m = some r) :
    ∃ q, monthNext A y m (n + 1) = some q ∧
      ∃ p, monthNext A y m n = some p ∧ (monthNext A p.year p.month 1).map (fun t => (t.year, t.month, t.first)) = some (q.year, q.month, q.first) := by
  obtain ⟨p, q, h1, h2, h3⟩ := next_add_gen A lo hi h hnr y m n 1 (by omega) (by omega) r hr
  exact ⟨q, h2, p, h1, h3⟩

/-- additivity for non-negative offsets -/
theorem next_add (A : Astro) (lo hi : Int) (h : AstroOK A lo hi) (hnr : ∀ y, lo ≤ y → y ≤ hi → isReformYear y = false)
    (y m : Int) (a b : Nat) (hlo : lo < y) (hhi : y + (a : Int) + (b : Int) + 1 < hi) (r p : MonthRec)
    (hr : findMonth (A y).months y m = some r) (hp : monthNext A y m a = some p) :
    (monthNext A p.year p.month b).map (fun t => (t.year, t.month, t.first)) = (monthNext A y m (a + b)).map (fun t => (t.year, t.month, t.first)) := by
  obtain ⟨p', q, h1, h2, h3⟩ := next_add_gen A lo hi h hnr y m a b (by omega) (by omega) r hr
  cases h1.symm.trans hp
  rw [h2, h3]
  rfl

/-- +1 followed by −1 returns to the start -/
theorem next_prev (A : Astro) (lo hi : Int) (h : AstroOK A lo hi) (hnr : ∀ y, lo ≤ y → y ≤ hi → isReformYear y = false)
    (y m : Int) (hlo : lo < y) (hhi : y + 1 < hi) (r q : MonthRec) (hr : findMonth (A y).months y m = some r) (hq : monthNext A y m 1 = some q) :
    (monthNext A q.year q.month (-1)).map (fun t => (t.year, t.month, t.first, t.dayCount)) = some (r.year, r.month, r.first, r.dayCount) := by
  obtain ⟨L, M⟩ := monthLine_of A lo hi h hnr
  have hy : y < hi := by omega
  obtain ⟨j, hj⟩ := M.find y m r hr hlo hy
  obtain ⟨q', jq, q1, q2, q3, qy, qy'⟩ := monthNext_pos A lo hi L M y m 1 0 1 (by decide) (by decide) (by decide) (by decide)
    r hr hlo (Or.inl (by rwa [Int.sub_zero])) hhi j hj
  cases q1.symm.trans hq
  obtain rfl : jq = j + 1 := by omega
  obtain ⟨t, t1, t2⟩ := M.own _ (List.mem_of_getElem? q3)
  -- when `q` is a month of year `y`, its record in table `y` directly follows that of `r`: the walk back stays inside the table
  have hcond : lo < q.year - 1 ∨ ∀ i : Nat, (A q.year).months[i]? = some t → - -1 ≤ (i : Int) := by
    by_cases e : q.year = y
    · refine Or.inr fun i hi => ?_
      rw [e] at hi
      obtain ⟨ir, hir⟩ := List.getElem?_of_mem (findMonth_some _ _ _ _ hr).1
      obtain ⟨c, hc⟩ := M.pos y hlo hy
      have := M.inj (hc ir r hir) hj
      have := M.inj (hc i t hi) (t2 ▸ q3)
      omega
    · exact Or.inl (by omega)
  obtain ⟨p, jp, p1, p2, p3, _⟩ := monthNext_pos A lo hi L M q.year q.month (-1) 1 0 (by decide) (by decide) (by decide) (by decide)
    t t1 (by omega) hcond (by omega) (j + 1) (t2 ▸ q3)
  obtain rfl : jp = j := by omega
  have e := congrArg (fun k : MonthRec => some (k.year, k.month, k.first, k.dayCount)) (Option.some.inj (p3.symm.trans hj))
  rw [p1]
  exact e

/-- moving −(n+1) months = moving −n months and then one more month back -/
theorem prev_iter (A : Astro) (lo hi : Int) (h : AstroOK A lo hi) (hnr : ∀ y, lo ≤ y → y ≤ hi → isReformYear y = false)
    (y m : Int) (n : Nat) (hlo : lo < y - (n : Int) - 1) (hhi : y < hi) (r : MonthRec) (hr : findMonth (A y).months y m = some r) :
    ∃ q, monthNext A y m (-((n : Int) + 1)) = some q ∧
      ∃ p, monthNext A y m (-(n : Int)) = some p ∧
        (monthNext A p.year p.month (-1)).map (fun t => (t.year, t.month, t.first)) = some (q.year, q.month, q.first) := by
  obtain ⟨p, q, h1, h2, h3⟩ := next_add_gen A lo hi h hnr y m (-(n : Int)) (-1) (by omega) (by omega) r hr
  rw [← Int.neg_add] at h2
  exact ⟨q, h2, p, h1, h3⟩

/-- additivity for offsets of any sign -/
theorem next_add_int (A : Astro) (lo hi : Int) (h : AstroOK A lo hi) (hnr : ∀ y, lo ≤ y → y ≤ hi → isReformYear y = false)
    (y m : Int) (a b : Int) (hlo : lo < y - (a.natAbs : Int) - (b.natAbs : Int) - 1)
    (hhi : y + (a.natAbs : Int) + (b.natAbs : Int) + 1 < hi) (r p : MonthRec)
    (hr : findMonth (A y).months y m = some r) (hp : monthNext A y m a = some p) :
    (monthNext A p.year p.month b).map (fun t => (t.year, t.month, t.first)) =
      (monthNext A y m (a + b)).map (fun t => (t.year, t.month, t.first)) := by
  obtain ⟨p', q, h1, h2, h3⟩ := next_add_gen A lo hi h hnr y m a b (by omega) (by omega) r hr
  cases h1.symm.trans hp
  rw [h2, h3]
  rfl

end Model

#print axioms Model.year_structure
#print axioms Model.neighbours_agree
#print axioms Model.new_years_eve
#print axioms Model.next_one
#print axioms Model.next_prev
#print axioms Model.next_iter
#print axioms Model.next_add
#print axioms Model.prev_iter
#print axioms Model.next_add_int
