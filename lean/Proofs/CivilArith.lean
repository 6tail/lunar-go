/-
What `Solar` computes with the day number: day and minute differences, the before/after comparisons
as the order of time stamps, algebra of `NextDay`, `NewSolarFromJulianDay` (`fromJD`) and the hour,
month and year steps.
-/
import Proofs.CivilStep
-- the theorems that restrict years to `≥ 1` do so for the Go code; their proofs do not use it
set_option linter.unusedVariables false
namespace Model

theorem daysInYear_eq (y m d : Int) (hv : validYmd y m d = true) :
    daysInYear y m d = some (jdn y m d - jdn y 1 1 + 1) := by
  obtain ⟨hj, -⟩ := jdn_comp y m d hv
  obtain ⟨hm1, hm, hd1, hd, hx⟩ := (validYmd_iff_step y m d).1 hv
  have hl := daysInYearLoop_eq (m - 1).toNat y 1 (by omega) (by omega)
  rw [show (1 : Int) + ((m - 1).toNat : Int) = m by omega] at hl
  unfold daysInYear
  unfold lin comp at hj
  simp only [hl, hj]
  split
  · rw [if_pos ‹_›] at hx
    split
    · congr 1; omega
    · rw [if_neg (by omega)]; congr 1; omega
  · congr 1; omega

theorem yearsLoop_eq (k : Nat) : ∀ (a : Int), yearsLoop k a = jdn (a + k) 1 1 - jdn a 1 1 := by
  induction k with
  | zero => intro a; simp [yearsLoop]
  | succ k ih =>
    intro a
    simp only [yearsLoop]
    rw [ih (a + 1)]
    have := jdn_year_len_all a
    rw [show a + ((k + 1 : Nat) : Int) = a + 1 + (k : Int) by omega]
    omega

theorem daysBetween_eq_any (ay am ad by_ bm bd : Int) (ha : validYmd ay am ad = true)
    (hb : validYmd by_ bm bd = true) :
    daysBetween ay am ad by_ bm bd = some (jdn by_ bm bd - jdn ay am ad) := by
  unfold daysBetween
  rw [daysInYear_eq ay am ad ha, daysInYear_eq by_ bm bd hb]
  have h1 := jdn_year_len_all ay
  have h2 := jdn_year_len_all by_
  dsimp only
  split
  · subst ‹ay = by_›; congr 1; omega
  · split
    · rw [yearsLoop_eq, show by_ + 1 + ((ay - by_ - 1).toNat : Int) = ay by omega]
      congr 1; omega
    · rw [yearsLoop_eq, show ay + 1 + ((by_ - ay - 1).toNat : Int) = by_ by omega]
      congr 1; omega

/-- day difference = difference of day numbers (the Go code sums year lengths in a loop) -/
theorem daysBetween_eq (ay am ad by_ bm bd : Int) (ha : validYmd ay am ad = true) (hb : validYmd by_ bm bd = true)
    (hya : 1 ≤ ay) (hyb : 1 ≤ by_) :
    daysBetween ay am ad by_ bm bd = some (jdn by_ bm bd - jdn ay am ad) :=
  daysBetween_eq_any ay am ad by_ bm bd ha hb

theorem valid_parts (s : Solar) (hs : s.valid = true) :
    validYmd s.year s.month s.day = true ∧ validHms s.hour s.minute s.second = true := by
  unfold Solar.valid at hs
  rw [Bool.and_eq_true] at hs
  exact hs

theorem subtract_eq_any (s o : Solar) (hs : s.valid = true) (ho : o.valid = true) :
    s.subtract o = some (s.jdn - o.jdn) :=
  daysBetween_eq_any _ _ _ _ _ _ (valid_parts o ho).1 (valid_parts s hs).1

theorem subtract_eq (s o : Solar) (hs : s.valid = true) (ho : o.valid = true) (hys : 1 ≤ s.year) (hyo : 1 ≤ o.year) :
    s.subtract o = some (s.jdn - o.jdn) :=
  subtract_eq_any s o hs ho

/-- minute difference = difference of (day number · 1440 + minute of day) -/
theorem subtractMinute_eq_any (s o : Solar) (hs : s.valid = true) (ho : o.valid = true) :
    s.subtractMinute o = some ((s.jdn * 1440 + s.hour * 60 + s.minute) - (o.jdn * 1440 + o.hour * 60 + o.minute)) := by
  unfold Solar.subtractMinute
  rw [subtract_eq_any s o hs ho]
  simp only
  split <;> (congr 1; omega)

theorem subtractMinute_eq (s o : Solar) (hs : s.valid = true) (ho : o.valid = true) (hys : 1 ≤ s.year) (hyo : 1 ≤ o.year) :
    s.subtractMinute o = some ((s.jdn * 1440 + s.hour * 60 + s.minute) - (o.jdn * 1440 + o.hour * 60 + o.minute)) :=
  subtractMinute_eq_any s o hs ho

theorem validHms_iff (h mi s : Int) :
    validHms h mi s = true ↔ (0 ≤ h ∧ h ≤ 23 ∧ 0 ≤ mi ∧ mi ≤ 59 ∧ 0 ≤ s ∧ s ≤ 59) := by
  unfold validHms
  simp only [Bool.and_eq_true, decide_eq_true_eq, and_assoc]

theorem hms_bounds (s : Solar) (hs : s.valid = true) :
    0 ≤ s.hour ∧ s.hour ≤ 23 ∧ 0 ≤ s.minute ∧ s.minute ≤ 59 ∧ 0 ≤ s.second ∧ s.second ≤ 59 :=
  (validHms_iff _ _ _).1 (valid_parts s hs).2

theorem lexLt_cons (a b : Int) (r : List (Int × Int)) :
    lexLt ((a, b) :: r) = true ↔ (a < b ∨ (a = b ∧ lexLt r = true)) := by
  simp only [lexLt]
  by_cases h1 : a > b
  · simp only [h1, if_true]; constructor
    · intro h; cases h
    · omega
  · by_cases h2 : a < b
    · simp only [h1, h2, if_true, if_false, true_or]
    · have : a = b := by omega
      subst this
      simp [Int.lt_irrefl]

theorem lexLt_nil : lexLt [] = true ↔ False := by simp [lexLt]

/-- for any day count `J` that orders the first three fields lexicographically -/
theorem lexLt6_aux (a b c d e f a' b' c' d' e' f' J J' : Int)
    (h1 : J < J' ↔ (a < a' ∨ (a = a' ∧ (b < b' ∨ (b = b' ∧ c < c')))))
    (h2 : J' < J ↔ (a' < a ∨ (a' = a ∧ (b' < b ∨ (b' = b ∧ c' < c)))))
    (b1 : 0 ≤ d ∧ d ≤ 23 ∧ 0 ≤ e ∧ e ≤ 59 ∧ 0 ≤ f ∧ f ≤ 59)
    (b2 : 0 ≤ d' ∧ d' ≤ 23 ∧ 0 ≤ e' ∧ e' ≤ 59 ∧ 0 ≤ f' ∧ f' ≤ 59) :
    lexLt [(a,a'),(b,b'),(c,c'),(d,d'),(e,e'),(f,f')] = true ↔
      J * 86400 + (d*3600+e*60+f) < J' * 86400 + (d'*3600+e'*60+f') := by
  simp only [lexLt_cons, lexLt_nil, and_false, or_false]
  omega

theorem lexLt6_iff (s o : Solar) (hs : s.valid = true) (ho : o.valid = true) :
    lexLt [(s.year, o.year), (s.month, o.month), (s.day, o.day), (s.hour, o.hour),
         (s.minute, o.minute), (s.second, o.second)] = true ↔ s.stamp < o.stamp :=
  lexLt6_aux _ _ _ _ _ _ _ _ _ _ _ _ _ _
    (jdn_lt_iff_lex_all _ _ _ _ _ _ (valid_parts s hs).1 (valid_parts o ho).1)
    (jdn_lt_iff_lex_all _ _ _ _ _ _ (valid_parts o ho).1 (valid_parts s hs).1)
    (hms_bounds s hs) (hms_bounds o ho)

theorem isBefore_iff_all (s o : Solar) (hs : s.valid = true) (ho : o.valid = true) :
    s.isBefore o = true ↔ s.stamp < o.stamp := by
  unfold Solar.isBefore
  exact lexLt6_iff s o hs ho

/-- before/after comparisons agree with the continuous time stamp -/
theorem isBefore_iff (s o : Solar) (hs : s.valid = true) (ho : o.valid = true) (hys : 1 ≤ s.year) (hyo : 1 ≤ o.year) :
    s.isBefore o = true ↔ s.stamp < o.stamp :=
  isBefore_iff_all s o hs ho

theorem isAfter_iff_all (s o : Solar) (hs : s.valid = true) (ho : o.valid = true) :
    s.isAfter o = true ↔ o.stamp < s.stamp := by
  unfold Solar.isAfter
  exact lexLt6_iff o s ho hs

theorem isAfter_iff (s o : Solar) (hs : s.valid = true) (ho : o.valid = true) (hys : 1 ≤ s.year) (hyo : 1 ≤ o.year) :
    s.isAfter o = true ↔ o.stamp < s.stamp :=
  isAfter_iff_all s o hs ho

theorem solar_eq_of_jdn (s t : Solar) (hs : s.valid = true) (ht : t.valid = true) (hj : s.jdn = t.jdn)
    (h1 : s.hour = t.hour) (h2 : s.minute = t.minute) (h3 : s.second = t.second) : s = t := by
  obtain ⟨e1, e2, e3⟩ := jdn_inj_all _ _ _ _ _ _ (valid_parts s hs).1 (valid_parts t ht).1 hj
  cases s; cases t
  simp only at e1 e2 e3 h1 h2 h3
  subst e1 e2 e3 h1 h2 h3
  rfl

theorem nextDay_eq_some (s t : Solar) (n : Int) (hs : s.valid = true) (ht : t.valid = true)
    (hj : t.jdn = s.jdn + n) (h1 : t.hour = s.hour) (h2 : t.minute = s.minute)
    (h3 : t.second = s.second) : s.nextDay n = some t := by
  obtain ⟨r, e, hrv, hj', a1, a2, a3⟩ := nextDay_spec_strong s n hs
  rw [e, solar_eq_of_jdn r t hrv ht (by omega) (by omega) (by omega) (by omega)]

theorem nextDay_neg_all (s r : Solar) (n : Int) (hv : s.valid = true) (h : s.nextDay n = some r) :
    r.nextDay (-n) = some s := by
  obtain ⟨r', e, hrv, hj, a1, a2, a3⟩ := nextDay_spec_strong s n hv
  cases h ▸ e
  exact nextDay_eq_some r s (-n) hrv hv (by omega) a1.symm a2.symm a3.symm

/-- a step is undone by the opposite step (the year bounds are not used) -/
theorem nextDay_neg (s r : Solar) (n : Int) (hv : s.valid = true) (hy : 1 ≤ s.year) (h : s.nextDay n = some r) (hr : 1 ≤ r.year) :
    r.nextDay (-n) = some s :=
  nextDay_neg_all s r n hv h

theorem nextDay_nextDay (s r t : Solar) (a b : Int) (hv : s.valid = true)
    (h1 : s.nextDay a = some r) (h2 : r.nextDay b = some t) : s.nextDay (a + b) = some t := by
  obtain ⟨r', e, hrv, hj, a1, a2, a3⟩ := nextDay_spec_strong s a hv
  cases h1 ▸ e
  obtain ⟨t', e', htv, hj', c1, c2, c3⟩ := nextDay_spec_strong r b hrv
  cases h2 ▸ e'
  exact nextDay_eq_some s t (a + b) hv htv (by omega) (by omega) (by omega) (by omega)

theorem nextDay_add (s r t : Solar) (a b : Int) (hv : s.valid = true) (hy : 1 ≤ s.year)
    (h1 : s.nextDay a = some r) (hr : 1 ≤ r.year) (h2 : r.nextDay b = some t) (ht : 1 ≤ t.year) :
    s.nextDay (a + b) = some t := nextDay_nextDay s r t a b hv h1 h2

/-- the second and minute carries of `NewSolarFromJulianDay` -/
def carryHms (hour minute second : Int) : Int × Int × Int :=
  let sm : Int × Int := if second > 59 then (second - 60, minute + 1) else (second, minute)
  let mh : Int × Int := if sm.2 > 59 then (sm.2 - 60, hour + 1) else (sm.2, hour)
  (mh.2, mh.1, sm.1)

/-- its last step: an hour count of 24 becomes hour 0 of the next day -/
def finishJD (y m d : Int) (hms : Int × Int × Int) : Option Solar :=
  if hms.1 > 23 then
    match newSolar y m d (hms.1 - 24) hms.2.1 hms.2.2 with
    | none => none
    | some s => s.nextDay 1
  else newSolar y m d hms.1 hms.2.1 hms.2.2

def fracHour (f : Int) : Int := f * 24 / 4294967296
def fracF2 (f : Int) : Int := (f * 24 - fracHour f * 4294967296) * 60
def fracMinute (f : Int) : Int := fracF2 f / 4294967296
def fracF3 (f : Int) : Int := (fracF2 f - fracMinute f * 4294967296) * 60
def fracSecond (f : Int) : Int := (2 * fracF3 f + 4294967296) / (2 * 4294967296)

theorem fromJD_eq (n : Int) :
    fromJD n =
      finishJD (fromJdn ((n + 2147483648) / 4294967296)).1 (fromJdn ((n + 2147483648) / 4294967296)).2.1
        (fromJdn ((n + 2147483648) / 4294967296)).2.2
        (carryHms (fracHour ((n + 2147483648) % 4294967296)) (fracMinute ((n + 2147483648) % 4294967296))
          (fracSecond ((n + 2147483648) % 4294967296))) := by
  rfl

/-- the rounded second may be 60 -/
theorem frac_spec (f : Int) (h0 : 0 ≤ f) (h1 : f < 4294967296) :
    0 ≤ fracHour f ∧ fracHour f ≤ 23 ∧ 0 ≤ fracMinute f ∧ fracMinute f ≤ 59 ∧
    0 ≤ fracSecond f ∧ fracSecond f ≤ 60 ∧
    -4294967296 < 2 * ((fracHour f * 3600 + fracMinute f * 60 + fracSecond f) * 4294967296 - f * 86400) ∧
    2 * ((fracHour f * 3600 + fracMinute f * 60 + fracSecond f) * 4294967296 - f * 86400) ≤ 4294967296 := by
  unfold fracSecond fracF3 fracMinute fracF2 fracHour
  omega

theorem carry_spec (H M S : Int) (h1 : 0 ≤ H) (h2 : H ≤ 23) (h3 : 0 ≤ M) (h4 : M ≤ 59) (h5 : 0 ≤ S) (h6 : S ≤ 60) :
    0 ≤ (carryHms H M S).1 ∧ (carryHms H M S).1 ≤ 24 ∧ 0 ≤ (carryHms H M S).2.1 ∧ (carryHms H M S).2.1 ≤ 59 ∧
    0 ≤ (carryHms H M S).2.2 ∧ (carryHms H M S).2.2 ≤ 59 ∧
    (carryHms H M S).1 * 3600 + (carryHms H M S).2.1 * 60 + (carryHms H M S).2.2 = H * 3600 + M * 60 + S := by
  unfold carryHms
  split <;> dsimp only <;> split <;> dsimp only <;> omega

theorem newSolar_some (y m d h mi s : Int) (hv : validYmd y m d = true) (hh : validHms h mi s = true) :
    newSolar y m d h mi s = some ⟨y, m, d, h, mi, s⟩ ∧ (Solar.mk y m d h mi s).valid = true := by
  unfold newSolar Solar.valid
  simp only [hv, hh, Bool.and_self, if_true, and_self]

theorem finish_spec (y m d H M S : Int) (hv : validYmd y m d = true)
    (h1 : 0 ≤ H) (h2 : H ≤ 24) (h3 : 0 ≤ M) (h4 : M ≤ 59) (h5 : 0 ≤ S) (h6 : S ≤ 59) :
    ∃ r, finishJD y m d (H, M, S) = some r ∧ r.valid = true ∧
      r.stamp = jdn y m d * 86400 + (H * 3600 + M * 60 + S) := by
  unfold finishJD
  dsimp only
  split
  · obtain ⟨e, hv0⟩ := newSolar_some y m d (H - 24) M S hv ((validHms_iff _ _ _).2 (by omega))
    obtain ⟨r, er, hrv, hj, a1, a2, a3⟩ := nextDay_spec_strong _ 1 hv0
    rw [e]
    refine ⟨r, er, hrv, ?_⟩
    unfold Solar.stamp Solar.secOfDay
    rw [hj, a1, a2, a3]
    simp only [Solar.jdn]
    omega
  · obtain ⟨e, hv0⟩ := newSolar_some y m d H M S hv ((validHms_iff _ _ _).2 (by omega))
    exact ⟨_, e, hv0, rfl⟩

theorem fromJD_core (n : Int) :
    ∃ r, fromJD n = some r ∧ r.valid = true ∧
      -4294967296 ≤ 2 * (r.jdNum * 4294967296 - n * 86400) ∧
      2 * (r.jdNum * 4294967296 - n * 86400) ≤ 4294967296 := by
  rw [fromJD_eq]
  have hf0 : 0 ≤ (n + 2147483648) % 4294967296 := by omega
  have hf1 : (n + 2147483648) % 4294967296 < 4294967296 := by omega
  have hn : n = (n + 2147483648) / 4294967296 * 4294967296 + (n + 2147483648) % 4294967296 - 2147483648 := by omega
  generalize (n + 2147483648) / 4294967296 = d at *
  generalize (n + 2147483648) % 4294967296 = f at *
  obtain ⟨hv, hj⟩ := jdn_fromJdn_all d
  obtain ⟨f1, f2, f3, f4, f5, f6, f7, f8⟩ := frac_spec f hf0 hf1
  obtain ⟨c1, c2, c3, c4, c5, c6, c8⟩ := carry_spec _ _ _ f1 f2 f3 f4 f5 f6
  obtain ⟨r, er, hrv, hst⟩ := finish_spec _ _ _ _ _ _ hv c1 c2 c3 c4 c5 c6
  refine ⟨r, er, hrv, ?_⟩
  have hjd : r.jdNum = r.stamp - 43200 := by unfold Solar.jdNum Solar.stamp; omega
  rw [hjd, hst, hj, c8, hn]
  generalize fracHour f * 3600 + fracMinute f * 60 + fracSecond f = tot at *
  omega

/-- every instant given as a Julian Day (exact value n/2^32 with n ≥ 1721424·2^32 − 2^31, i.e. from 0001-01-01 00:00 on) converts to a valid
    date-time whose exact Julian Day is within half a second of the input -/
theorem fromJD_total (n : Int) (h : 1721424 * 4294967296 - 2147483648 ≤ n) :
    ∃ r, fromJD n = some r ∧ r.valid = true ∧
      (r.jdNum * 4294967296 - n * 86400).natAbs * 2 ≤ 4294967296 := by
  obtain ⟨r, e, hv, h1, h2⟩ := fromJD_core n
  exact ⟨r, e, hv, by omega⟩

theorem hms_unique (s t : Solar) (hs : s.valid = true) (ht : t.valid = true) (h : s.secOfDay = t.secOfDay) :
    s.hour = t.hour ∧ s.minute = t.minute ∧ s.second = t.second := by
  have b1 := hms_bounds s hs
  have b2 := hms_bounds t ht
  unfold Solar.secOfDay at h
  omega

theorem fromJD_near_all (s : Solar) (hv : s.valid = true) (n : Int)
    (hn : (n * 86400 - s.jdNum * 4294967296).natAbs ≤ 86400 * 32) : fromJD n = some s := by
  obtain ⟨r, e, hrv, h1, h2⟩ := fromJD_core n
  have bs := hms_bounds s hv
  have br := hms_bounds r hrv
  have hjs : s.jdNum = s.jdn * 86400 - 43200 + s.secOfDay := rfl
  have hjr : r.jdNum = r.jdn * 86400 - 43200 + r.secOfDay := rfl
  have hss : s.secOfDay = s.hour * 3600 + s.minute * 60 + s.second := rfl
  have hsr : r.secOfDay = r.hour * 3600 + r.minute * 60 + r.second := rfl
  -- both are whole seconds and less than a second apart
  have heq : r.jdNum = s.jdNum := by omega
  obtain ⟨a1, a2, a3⟩ := hms_unique r s hrv hv (by omega)
  rw [e, solar_eq_of_jdn r s hrv hv (by omega) a1 a2 a3]

/-- a date-time converts to its Julian Day and back without change, for any representation error up to 2^-27 day
(`hy` is not needed) -/
theorem fromJD_near (s : Solar) (hv : s.valid = true) (hy : 1 ≤ s.year) (n : Int)
    (hn : (n * 86400 - s.jdNum * 4294967296).natAbs ≤ 86400 * 32) : fromJD n = some s := fromJD_near_all s hv n hn

/-- the (hour, day carry) of `Solar.NextHour` for a total hour count `h` -/
def hourDays (h : Int) : Int × Int :=
  let n : Int := if h < 0 then -1 else 1
  let a : Int := if h < 0 then -h else h
  let days := a / 24 * n
  let hour := (a % 24) * n
  if hour < 0 then (hour + 24, days - 1) else (hour, days)

theorem nextHour_eq (s : Solar) (hours : Int) :
    s.nextHour hours =
      match s.nextDay (hourDays (s.hour + hours)).2 with
      | none => none
      | some o => newSolar o.year o.month o.day (hourDays (s.hour + hours)).1 o.minute o.second := by
  rfl

theorem hourDays_spec (h : Int) :
    0 ≤ (hourDays h).1 ∧ (hourDays h).1 ≤ 23 ∧ (hourDays h).2 * 24 + (hourDays h).1 = h := by
  unfold hourDays
  by_cases c : h < 0
  · simp only [c, if_true]
    split <;> (simp only; omega)
  · simp only [c, if_false]
    split <;> (simp only; omega)

/-- hour stepping = stepping the total hour count: result is valid and its stamp moved by exactly 3600·hours seconds -/
theorem nextHour_spec_any (s : Solar) (hours : Int) (hv : s.valid = true) :
    ∃ r, s.nextHour hours = some r ∧ r.valid = true ∧ r.stamp = s.stamp + 3600 * hours := by
  rw [nextHour_eq]
  obtain ⟨k1, k2, k3⟩ := hourDays_spec (s.hour + hours)
  obtain ⟨o, eo, hov, hj, a1, a2, a3⟩ := nextDay_spec_strong s (hourDays (s.hour + hours)).2 hv
  rw [eo]
  have bo := hms_bounds o hov
  obtain ⟨e, hv0⟩ := newSolar_some o.year o.month o.day (hourDays (s.hour + hours)).1 o.minute o.second
    (valid_parts o hov).1 ((validHms_iff _ _ _).2 (by omega))
  refine ⟨_, e, hv0, ?_⟩
  unfold Solar.stamp Solar.secOfDay
  simp only [Solar.jdn] at hj ⊢
  rw [hj, a2, a3]
  omega

theorem nextHour_spec (s : Solar) (hours : Int) (hv : s.valid = true) (hy : 1 ≤ s.year) :
    ∃ r, s.nextHour hours = some r ∧ r.valid = true ∧ r.stamp = s.stamp + 3600 * hours :=
  nextHour_spec_any s hours hv

theorem nextYm_spec (y m n : Int) (h1 : 1 ≤ m) (h2 : m ≤ 12) :
    1 ≤ (nextYm y m n).2 ∧ (nextYm y m n).2 ≤ 12 ∧
    (nextYm y m n).1 * 12 + ((nextYm y m n).2 - 1) = y * 12 + (m - 1) + n := by
  unfold nextYm
  by_cases c : n < 0
  · simp only [c, if_true]
    repeat' split
    all_goals (simp only; omega)
  · simp only [c, if_false]
    repeat' split
    all_goals (simp only; omega)

/-- the day `Solar.NextMonth` puts into the target month `(y, m)` -/
theorem nextMonth_day (y m d d' : Int) (hm1 : 1 ≤ m) (hm : m ≤ 12) (hd1 : 1 ≤ d) (hd : d ≤ 31)
    (hd' : d' = if y = 1582 ∧ m = 10 then (if d > 4 ∧ d < 15 then d + 10 else d)
            else (if d > daysOfMonth y m then daysOfMonth y m else d)) :
    validYmd y m d' = true ∧
      (d' = d ∨ (d' = daysOfMonth y m ∧ d' < d) ∨ (y = 1582 ∧ m = 10 ∧ d' = d + 10)) := by
  have hb := daysOfMonth_bounds y m hm1 hm
  rw [validYmd_iff_step]
  subst hd'
  split <;> omega

/-- month / year stepping lands in the target month, on the same day clamped into that month (or moved past the 1582 gap) -/
theorem nextMonth_spec (s : Solar) (n : Int) (hv : s.valid = true) :
    ∃ r, s.nextMonth n = some r ∧ r.valid = true ∧
      r.year * 12 + (r.month - 1) = s.year * 12 + (s.month - 1) + n ∧
      r.hour = s.hour ∧ r.minute = s.minute ∧ r.second = s.second ∧
      (r.day = s.day ∨ (r.day = daysOfMonth r.year r.month ∧ r.day < s.day) ∨ (r.year = 1582 ∧ r.month = 10 ∧ r.day = s.day + 10)) := by
  obtain ⟨hymd, hhms⟩ := valid_parts s hv
  obtain ⟨hm1, hm, hd1, hd, -⟩ := (validYmd_iff_step _ _ _).1 hymd
  obtain ⟨k1, k2, k3⟩ := nextYm_spec s.year s.month n hm1 hm
  obtain ⟨hd', hor⟩ := nextMonth_day (nextYm s.year s.month n).1 _ _ _ k1 k2 hd1 hd rfl
  obtain ⟨e, hv0⟩ := newSolar_some _ _ _ _ _ _ hd' hhms
  exact ⟨_, e, hv0, k3, rfl, rfl, rfl, hor⟩

/-- the day `Solar.NextYear` puts into month `m` of the target year `y` -/
theorem nextYear_day (y0 y m d d' : Int) (hv : validYmd y0 m d = true)
    (hd' : d' = if y = 1582 ∧ m = 10 then (if d > 4 ∧ d < 15 then d + 10 else d)
            else if m = 2 then (if d > 28 ∧ !isLeapYear y then 28 else d) else d) :
    validYmd y m d' = true ∧
      (d' = d ∨ (m = 2 ∧ d' = 28 ∧ d = 29) ∨ (y = 1582 ∧ m = 10 ∧ d' = d + 10)) := by
  rw [validYmd_iff_step] at hv ⊢
  obtain ⟨hm1, hm, hd1, hd, hx⟩ := hv
  rw [daysOfMonth_eq y0 m hm1 hm] at hx
  rw [daysOfMonth_eq y m hm1 hm]
  subst hd'
  split
  · omega
  · cases isLeapYear y <;> simp <;> split at hx <;> omega

theorem nextYear_spec (s : Solar) (n : Int) (hv : s.valid = true) :
    ∃ r, s.nextYear n = some r ∧ r.valid = true ∧ r.year = s.year + n ∧ r.month = s.month ∧
      r.hour = s.hour ∧ r.minute = s.minute ∧ r.second = s.second ∧
      (r.day = s.day ∨ (r.month = 2 ∧ r.day = 28 ∧ s.day = 29) ∨ (r.year = 1582 ∧ r.month = 10 ∧ r.day = s.day + 10)) := by
  obtain ⟨hymd, hhms⟩ := valid_parts s hv
  obtain ⟨hd, hor⟩ := nextYear_day _ (s.year + n) _ _ _ hymd rfl
  obtain ⟨e, hv0⟩ := newSolar_some _ _ _ _ _ _ hd hhms
  exact ⟨_, e, hv0, rfl, rfl, rfl, rfl, rfl, hor⟩

theorem jdn_dec31 (y : Int) : jdn y 12 31 + 1 = jdn (y + 1) 1 1 := by
  simp [jdn_eq_step]
  repeat' split
  all_goals omega

theorem jdn_year_bounds (y m d : Int) (hv : validYmd y m d = true) :
    jdn y 1 1 ≤ jdn y m d ∧ jdn y m d ≤ jdn y 12 31 := by
  obtain ⟨a1, a2⟩ := jdn_in_month y m d hv
  obtain ⟨hm1, hm, _, _, _⟩ := (validYmd_iff_step y m d).1 hv
  have e1 := monthStart_le y 1 m (by omega) hm1 hm
  have e2 := monthEnd_le_yearEnd y m hm1 hm
  have e3 := jdn_dec31 y
  omega

theorem valid_in_year {s : Solar} (hv : s.valid = true) :
    jdn s.year 1 1 ≤ s.jdn ∧ s.jdn ≤ jdn s.year 12 31 :=
  jdn_year_bounds _ _ _ (valid_parts s hv).1

theorem year_jdn {s : Solar} (hv : s.valid = true) (y : Int) : y ≤ s.year ↔ jdn y 1 1 ≤ s.jdn := by
  obtain ⟨b1, b2⟩ := valid_in_year hv
  have := jdn_dec31 s.year
  constructor
  · intro c
    have := yearStart_le y s.year c
    omega
  · intro c
    apply Int.not_lt.1
    intro c'
    have := yearStart_le (s.year + 1) y c'
    omega

theorem civil_year_mono (s s' : Solar) (hv : s.valid = true) (hv' : s'.valid = true) (h : s.year < s'.year) :
    s.jdn < s'.jdn :=
  lex_jdn_lt _ _ _ _ _ _ (valid_parts s hv).1 (valid_parts s' hv').1 (Or.inl h)

theorem newSolar_inv (y m d h mi s : Int) (sol : Solar) (e : newSolar y m d h mi s = some sol) :
    sol = ⟨y, m, d, h, mi, s⟩ ∧ sol.valid = true := by
  unfold newSolar at e
  split at e
  · rename_i c
    cases e
    exact ⟨rfl, c⟩
  · cases e

theorem valid_md_bounds (a : Solar) (hv : a.valid = true) :
    1 ≤ a.month ∧ a.month ≤ 12 ∧ 1 ≤ a.day ∧ a.day ≤ 31 := by
  obtain ⟨b1, b2, b3, b4, _⟩ := (validYmd_iff_step _ _ _).1 (valid_parts a hv).1
  exact ⟨b1, b2, b3, b4⟩

theorem secOfDay_bounds (s : Solar) (hv : s.valid = true) : 0 ≤ s.secOfDay ∧ s.secOfDay ≤ 86399 := by
  have := hms_bounds s hv
  unfold Solar.secOfDay
  omega

end Model

#print axioms Model.daysBetween_eq
#print axioms Model.subtract_eq
#print axioms Model.subtractMinute_eq
#print axioms Model.isBefore_iff
#print axioms Model.isAfter_iff
#print axioms Model.nextDay_neg
#print axioms Model.nextDay_add
#print axioms Model.nextHour_spec
#print axioms Model.nextMonth_spec
#print axioms Model.nextYear_spec
#print axioms Model.fromJD_total
#print axioms Model.fromJD_near
