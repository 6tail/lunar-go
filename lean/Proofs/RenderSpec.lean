/-
Proofs.RenderSpec — the Chinese rendering of a lunar date (`Lunar.String`, `Tao.String`,
`Foto.String`) parses back to the year, month (negative = leap) and day it was printed from;
hence distinct dates never print alike.
-/
import Model.TaoFoto
namespace Model
open Gen.Tables

/-- digits are single, pairwise distinct characters different from 年 -/
theorem number_tbl_ok : ((List.range 10).all fun i => match Gen.Tables.LunarUtil.NUMBER_cp.getD i [] with | [c] => c != cpNian | _ => false) = true ∧
    ((Gen.Tables.LunarUtil.NUMBER_cp.take 10).Nodup) := by
  constructor <;> decide +kernel

/-- month names are distinct, non-empty and contain neither 月 nor 闰 nor 年 -/
theorem month_tbl_ok : Gen.Tables.LunarUtil.MONTH_cp.length = 13 ∧ (Gen.Tables.LunarUtil.MONTH_cp.drop 1).Nodup ∧
    ((Gen.Tables.LunarUtil.MONTH_cp.drop 1).all fun n => !n.isEmpty && !n.contains cpYue && !n.contains cpRun && !n.contains cpNian) = true := by
  refine ⟨?_, ?_, ?_⟩ <;> decide +kernel

/-- day names distinct and non-empty -/
theorem day_tbl_ok : Gen.Tables.LunarUtil.DAY_cp.length = 31 ∧ (Gen.Tables.LunarUtil.DAY_cp.drop 1).Nodup ∧
    ((Gen.Tables.LunarUtil.DAY_cp.drop 1).all fun n => !n.isEmpty) = true := by
  refine ⟨?_, ?_, ?_⟩ <;> decide +kernel

def digitCp (d : Nat) : List Nat := cpTbl LunarUtil.NUMBER_cp (Int.ofNat d)

theorem digit_spec (d : Nat) (hd : d < 10) :
    ∃ c, digitCp d = [c] ∧ c ≠ cpNian ∧ findIdxCp (LunarUtil.NUMBER_cp.take 10) [c] = some d :=
  ⟨(digitCp d).headD 0, (by decide +kernel : ∀ d < 10, digitCp d = [(digitCp d).headD 0] ∧
    (digitCp d).headD 0 ≠ cpNian ∧
    findIdxCp (LunarUtil.NUMBER_cp.take 10) [(digitCp d).headD 0] = some d) d hd⟩

theorem yearCp_eq (y : Int) : yearCp y = (digitsOf y.toNat).flatMap digitCp := rfl

/-- one step of the year parser -/
def pstep (acc : Option Nat) (c : Nat) : Option Nat :=
  match acc with
  | none => none
  | some a => match findIdxCp (LunarUtil.NUMBER_cp.take 10) [c] with
    | some d => some (a * 10 + d)
    | none => none

theorem parseYearCp_eq (cs : List Nat) : parseYearCp cs = cs.foldl pstep (some 0) := rfl

theorem fold_digits (ds : List Nat) (hds : ∀ d ∈ ds, d < 10) (a : Nat) :
    (ds.flatMap digitCp).foldl pstep (some a) = some (ds.foldl (fun a d => a * 10 + d) a) := by
  induction ds generalizing a with
  | nil => rfl
  | cons d ds ih =>
    obtain ⟨c, hc, _, hf⟩ := digit_spec d (hds d (by simp))
    have hs : pstep (some a) c = some (a * 10 + d) := by simp [pstep, hf]
    simp only [List.flatMap_cons, hc, List.foldl_append, List.foldl_cons, List.foldl_nil, hs]
    exact ih (fun x hx => hds x (by simp [hx])) _

theorem nian_not_mem_digits (ds : List Nat) (hds : ∀ d ∈ ds, d < 10) : cpNian ∉ ds.flatMap digitCp := by
  intro hmem
  obtain ⟨d, hd, hm⟩ := List.mem_flatMap.1 hmem
  obtain ⟨c, hc, hne, _⟩ := digit_spec d (hds d hd)
  rw [hc, List.mem_singleton] at hm
  exact hne hm.symm

theorem digits_flat_ne_nil (ds : List Nat) (hds : ∀ d ∈ ds, d < 10) (hne : ds ≠ []) :
    (ds.flatMap digitCp).isEmpty = false := by
  cases ds with
  | nil => exact absurd rfl hne
  | cons d ds =>
    obtain ⟨c, hc, _, _⟩ := digit_spec d (hds d (by simp))
    simp [List.flatMap_cons, hc]

theorem digitsFuel_spec : ∀ fuel n, n < fuel →
    (digitsFuel fuel n).foldl (fun a d => a * 10 + d) 0 = n ∧ (∀ d ∈ digitsFuel fuel n, d < 10) ∧ digitsFuel fuel n ≠ []
  | 0, n, h => absurd h (Nat.not_lt_zero _)
  | fuel + 1, n, h => by
    unfold digitsFuel
    split
    · next hlt => simpa using hlt
    · next hge =>
      obtain ⟨h1, h2, h3⟩ := digitsFuel_spec fuel (n / 10) (by omega)
      refine ⟨?_, ?_, by simp⟩
      · rw [List.foldl_append, h1]; simp; omega
      · intro d hd
        rcases List.mem_append.1 hd with hd | hd
        · exact h2 d hd
        · simp at hd; omega

theorem digitsOf_spec (n : Nat) :
    (digitsOf n).foldl (fun a d => a * 10 + d) 0 = n ∧ (∀ d ∈ digitsOf n, d < 10) ∧ digitsOf n ≠ [] :=
  digitsFuel_spec (n + 1) n (Nat.lt_succ_self n)

theorem parseYear_yearCp (y : Nat) : parseYearCp (yearCp (y : Int)) = some y := by
  obtain ⟨h1, h2, _⟩ := digitsOf_spec y
  rw [yearCp_eq, parseYearCp_eq, Int.toNat_natCast, fold_digits _ h2, h1]

theorem splitAt1_append (sep : Nat) (a b : List Nat) (h : sep ∉ a) : splitAt1 sep (a ++ sep :: b) = some (a, b) := by
  induction a with
  | nil => simp [splitAt1]
  | cons c cs ih =>
    have hc : c ≠ sep := fun e => h (by simp [e])
    have hcs : sep ∉ cs := fun e => h (by simp [e])
    simp [splitAt1, hc, ih hcs]

/-- what `parseLunarCp` needs of the year part `ys`, the month name `ms` and the day name `ds` -/
theorem parseLunarCp_parts (ys ms ds : List Nat) (leap : Bool) (y mi di : Nat)
    (hy : parseYearCp ys = some y) (hys : ys.isEmpty = false) (hnian : cpNian ∉ ys)
    (hms : ms ≠ []) (hrun : (ms.head? == some cpRun) = false) (hyue : cpYue ∉ ms)
    (hm : findIdxCp LunarUtil.MONTH_cp ms = some (mi + 1)) (hd : findIdxCp LunarUtil.DAY_cp ds = some (di + 1)) :
    parseLunarCp (ys ++ cpNian :: ((if leap then cpRun :: ms else ms) ++ cpYue :: ds)) =
      some ((y : Int), if leap then -((mi + 1 : Nat) : Int) else ((mi + 1 : Nat) : Int), ((di + 1 : Nat) : Int)) := by
  have hrun' : ((ms ++ cpYue :: ds).head? == some cpRun) = false := by
    obtain ⟨c, cs, rfl⟩ := List.exists_cons_of_ne_nil hms
    exact hrun
  unfold parseLunarCp
  rw [splitAt1_append _ _ _ hnian]
  cases leap
  · simp only [Bool.false_eq_true, if_false, hy, hrun', splitAt1_append _ _ _ hyue, hm, hd]
    simp [hys]
  · simp only [if_true, hy, List.cons_append, List.head?_cons, beq_self_eq_true, List.drop_succ_cons,
      List.drop_zero, splitAt1_append _ _ _ hyue, hm, hd]
    simp [hys]

theorem month_names_ok : ∀ mi < 12,
    LunarUtil.MONTH_cp.getD (mi + 1) [] ≠ [] ∧
    ((LunarUtil.MONTH_cp.getD (mi + 1) []).head? == some cpRun) = false ∧
    cpYue ∉ LunarUtil.MONTH_cp.getD (mi + 1) [] ∧
    findIdxCp LunarUtil.MONTH_cp (LunarUtil.MONTH_cp.getD (mi + 1) []) = some (mi + 1) := by
  decide +kernel

theorem day_names_ok : ∀ di < 30,
    findIdxCp LunarUtil.DAY_cp (LunarUtil.DAY_cp.getD (di + 1) []) = some (di + 1) := by
  decide +kernel

theorem lunarCp_eq (y m d : Int) :
    lunarCp y m d = yearCp y ++ cpNian :: (monthCp m ++ cpYue :: dayCp d) := by
  simp [lunarCp, List.append_assoc]

theorem cpTbl_natCast (t : List (List Nat)) (n : Nat) : cpTbl t (n : Int) = t.getD n [] := by
  rw [cpTbl, if_neg (by omega), Int.toNat_natCast]

theorem monthCp_neg (n : Nat) : monthCp (-((n + 1 : Nat) : Int)) = cpRun :: LunarUtil.MONTH_cp.getD (n + 1) [] := by
  rw [monthCp, if_pos (by omega), Int.neg_neg, cpTbl_natCast]

/-- the whole rendering parses back to the same year, month (negative = leap) and day, for every
year ≥ 0, month ±1..±12, day 1..30 -/
theorem parse_lunarCp (y m d : Int) (hy : 0 ≤ y) (hm : (1 ≤ m ∧ m ≤ 12) ∨ (-12 ≤ m ∧ m ≤ -1)) (hd : 1 ≤ d ∧ d ≤ 30) :
    parseLunarCp (lunarCp y m d) = some (y, m, d) := by
  obtain ⟨yn, rfl⟩ := Int.eq_ofNat_of_zero_le hy
  obtain ⟨di, rfl⟩ : ∃ di : Nat, d = (di + 1 : Nat) := ⟨d.toNat - 1, by omega⟩
  obtain ⟨mi, hmi, hm'⟩ : ∃ mi : Nat, mi < 12 ∧ (m = (mi + 1 : Nat) ∨ m = -((mi + 1 : Nat) : Int)) :=
    ⟨m.natAbs - 1, by omega, by omega⟩
  obtain ⟨_, h2, h3⟩ := digitsOf_spec yn
  obtain ⟨m1, m2, m3, m4⟩ := month_names_ok mi hmi
  have key := fun leap => parseLunarCp_parts (yearCp yn) _ _ leap yn mi di (parseYear_yearCp yn)
    (digits_flat_ne_nil _ h2 h3) (nian_not_mem_digits _ h2) m1 m2 m3 m4 (day_names_ok di (by omega))
  rw [lunarCp_eq, dayCp, cpTbl_natCast]
  rcases hm' with rfl | rfl
  · rw [monthCp, if_neg (by omega), cpTbl_natCast]
    exact key false
  · rw [monthCp_neg]
    exact key true

/-- hence distinct dates never print alike -/
theorem lunarCp_inj (y m d y' m' d' : Int) (hy : 0 ≤ y) (hy' : 0 ≤ y')
    (hm : (1 ≤ m ∧ m ≤ 12) ∨ (-12 ≤ m ∧ m ≤ -1)) (hm' : (1 ≤ m' ∧ m' ≤ 12) ∨ (-12 ≤ m' ∧ m' ≤ -1))
    (hd : 1 ≤ d ∧ d ≤ 30) (hd' : 1 ≤ d' ∧ d' ≤ 30) (h : lunarCp y m d = lunarCp y' m' d') : (y, m, d) = (y', m', d') :=
  Option.some.inj <| (parse_lunarCp y m d hy hm hd).symm.trans <|
    (congrArg parseLunarCp h).trans (parse_lunarCp y' m' d' hy' hm' hd')

/-- sanity: the code-point rendering is the string the Go code prints -/
example : cpToString (lunarCp 2020 (-4) 1) = "二〇二〇年闰四月初一" := by decide +kernel

end Model

#print axioms Model.number_tbl_ok
#print axioms Model.month_tbl_ok
#print axioms Model.day_tbl_ok
#print axioms Model.parseYear_yearCp
#print axioms Model.parse_lunarCp
#print axioms Model.lunarCp_inj
