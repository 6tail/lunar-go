/-
Proofs.SeasonSpec — closed forms of the seasonal counters and movable festivals of `Model.Season`:
nine-nines (`shuJiu`), dog days (`fu`), pentads (`hou`, `wuHou`), 寒食节 / 春社 / 秋社
(`otherFestivals`) and 除夕 (`festivals`).
-/
import Model.Season
import Proofs.JieQiSpec
namespace Model
open Gen.Tables

/-- a valid date at 00:00:00 -/
def Mid (s : Solar) : Prop := s.valid = true ∧ s.hour = 0 ∧ s.minute = 0 ∧ s.second = 0

theorem mid_midnight (s : Solar) (hv : s.valid = true) : Mid (midnight s) ∧ (midnight s).jdn = s.jdn := by
  refine ⟨⟨?_, rfl, rfl, rfl⟩, rfl⟩
  have := (valid_parts s hv).1
  unfold Solar.valid midnight
  simp only [this, Bool.true_and]
  decide

theorem mid_next (s : Solar) (n : Int) (h : Mid s) :
    ∃ r, s.nextDay n = some r ∧ Mid r ∧ r.jdn = s.jdn + n := by
  obtain ⟨r, e, hv, hj, a1, a2, a3⟩ := nextDay_spec_strong s n h.1
  exact ⟨r, e, ⟨hv, by rw [a1, h.2.1], by rw [a2, h.2.2.1], by rw [a3, h.2.2.2]⟩, hj⟩

theorem mid_stamp (s : Solar) (h : Mid s) : s.stamp = s.jdn * 86400 := by
  unfold Solar.stamp Solar.secOfDay
  rw [h.2.1, h.2.2.1, h.2.2.2]; omega

theorem mid_before (a b : Solar) (ha : Mid a) (hb : Mid b) : a.isBefore b = decide (a.jdn < b.jdn) := by
  rw [Bool.eq_iff_iff, decide_eq_true_iff, isBefore_iff_all a b ha.1 hb.1, mid_stamp a ha, mid_stamp b hb]
  omega

theorem mid_after (a b : Solar) (ha : Mid a) (hb : Mid b) : a.isAfter b = decide (b.jdn < a.jdn) :=
  mid_before b a hb ha

theorem mid_sub (a b : Solar) (ha : Mid a) (hb : Mid b) : a.subtract b = some (a.jdn - b.jdn) :=
  subtract_eq_any a b ha.1 hb.1

/-- NINE-NINES: with S = day number of the applicable winter-solstice day (this December's 冬至 = entry 25 if today is on or after it, else last December's = entry 1) and k = today − S:
    defined exactly on 0 ≤ k < 81, name NUMBER[k/9+1] ++ "九", index k%9+1; absent otherwise -/
theorem shuJiu_spec (y : Int) (l : Lunar) (hts : termsOk y l.terms = true) (hnow : stampValid l.solar = true) :
    let S := if (l.terms.getD 25 nilSolar).jdn ≤ l.solar.jdn then (l.terms.getD 25 nilSolar).jdn else (l.terms.getD 1 nilSolar).jdn
    let k := l.solar.jdn - S
    l.shuJiu = some (if 0 ≤ k ∧ k < 81 then some (strGetD Gen.Tables.LunarUtil.NUMBER (k / 9 + 1) ++ "九", k % 9 + 1) else none) := by
  intro S k
  obtain ⟨hc, hcj⟩ := mid_midnight l.solar (stampValid_parts _ hnow).1
  obtain ⟨h25, h25j⟩ := mid_midnight _ (term_valid hts 25)
  obtain ⟨h1, h1j⟩ := mid_midnight _ (term_valid hts 1)
  unfold Lunar.shuJiu
  simp only [termByName_dongZhi2, termByName_dongZhi, mid_before _ _ hc h25, hcj, h25j, decide_eq_true_eq]
  -- the applicable solstice day
  obtain ⟨start, hs, hsj, he⟩ : ∃ start, Mid start ∧ start.jdn = S ∧
      (if l.solar.jdn < (l.terms.getD 25 nilSolar).jdn then midnight (l.terms.getD 1 nilSolar)
        else midnight (l.terms.getD 25 nilSolar)) = start := by
    by_cases hle : (l.terms.getD 25 nilSolar).jdn ≤ l.solar.jdn
    · exact ⟨_, h25, by simp only [S, if_pos hle, h25j], if_neg (by omega)⟩
    · exact ⟨_, h1, by simp only [S, if_neg hle, h1j], if_pos (by omega)⟩
  obtain ⟨e, hee, hme, hje⟩ := mid_next start 81 hs
  rw [he, hee]
  simp only [mid_before _ _ hc hs, mid_before _ _ hc hme, mid_sub _ _ hc hs, hje, hcj, hsj, Bool.or_eq_true,
    Bool.not_eq_true', decide_eq_true_eq, decide_eq_false_iff_not]
  by_cases h : 0 ≤ k ∧ k < 81
  · rw [if_pos h, if_neg (by omega)]
  · rw [if_neg h, if_pos (by omega)]

/-- the geng-day facts behind it: G is a geng day, the first one on or after the solstice day -/
theorem geng_first (n : Int) : ((n + (6 - (n - 11) % 10) % 10) - 11) % 10 = 6 ∧ 0 ≤ (6 - (n - 11) % 10) % 10 ∧ (6 - (n - 11) % 10) % 10 ≤ 9 := by
  omega

/-- the offset from a day to the next day of stem `c` (0 if the day itself has it), as the Go code computes it -/
theorem gan_off (c : Int) (hc : 0 ≤ c ∧ c ≤ 9 := by omega) (s : Solar) :
    (if c - dayGanOf s < 0 then c - dayGanOf s + 10 else c - dayGanOf s) = (c - (s.jdn - 11) % 10) % 10 := by
  have : dayGanOf s = (s.jdn - 11) % 10 := rfl
  rw [this]
  split <;> omega

/-- DOG DAYS: G = first geng day (day stem 6) on or after the summer-solstice day; first period starts at G+20 (third geng day) and lasts 10 days;
    middle period starts at G+30 and lasts 20 days if the Liqiu day is after G+40 (the fifth geng day), else 10; last period follows and lasts 10 days;
    day index counts from 1 within each period; absent outside. -/
theorem fu_spec (y : Int) (l : Lunar) (hts : termsOk y l.terms = true) (hnow : stampValid l.solar = true) :
    let xz := (l.terms.getD 13 nilSolar).jdn
    let G := xz + (6 - (xz - 11) % 10) % 10
    let D := l.solar.jdn - (G + 20)
    let long : Bool := decide ((l.terms.getD 16 nilSolar).jdn > G + 40)
    l.fu = some (
      if D < 0 then none
      else if D < 10 then some ("初伏", D + 1)
      else if D < 20 then some ("中伏", D - 9)
      else if long then (if D < 30 then some ("中伏", D - 9) else if D < 40 then some ("末伏", D - 29) else none)
      else (if D < 30 then some ("末伏", D - 19) else none)) := by
  intro xz G D long
  obtain ⟨hc, hcj⟩ := mid_midnight l.solar (stampValid_parts _ hnow).1
  obtain ⟨h13, h13j⟩ := mid_midnight _ (term_valid hts 13)
  obtain ⟨h16, h16j⟩ := mid_midnight _ (term_valid hts 16)
  obtain ⟨s1, e1, m1, j1⟩ := mid_next _ ((6 - ((l.terms.getD 13 nilSolar).jdn - 11) % 10) % 10 + 20) h13
  obtain ⟨s2, e2, m2, j2⟩ := mid_next s1 10 m1
  obtain ⟨s3, e3, m3, j3⟩ := mid_next s2 10 m2
  obtain ⟨s4, e4, m4, j4⟩ := mid_next s3 10 m3
  have hlong : long = true ↔ s3.jdn < (l.terms.getD 16 nilSolar).jdn := by
    simp only [long, decide_eq_true_eq]
    omega
  have hD : D = l.solar.jdn - s1.jdn := by omega
  clear_value D long
  unfold Lunar.fu
  simp only [termByName_xiaZhi, termByName_liQiu, gan_off 6, e1, e2, e3, e4, mid_before _ _ hc m1, mid_sub _ _ hc m1,
    mid_sub _ _ hc m2, mid_sub _ _ hc m3, mid_sub _ _ hc m4, mid_after _ _ h16 m3, decide_eq_true_eq, hcj, h16j]
  -- the periods start at s1 = G+20, s2 = s1+10, s3 = s2+10, s4 = s3+10; D counts from s1
  clear e1 e2 e3 e4 j1 hcj h16j h13j hts hnow
  by_cases h0 : D < 0
  · rw [if_pos (by omega), if_pos h0]
  rw [if_neg (by omega), if_neg h0]
  by_cases h1 : D < 10
  · rw [if_pos (by omega), if_pos h1, show l.solar.jdn - s1.jdn = D by omega]
  rw [if_neg (by omega), if_neg h1]
  by_cases h2 : D < 20
  · rw [if_pos (by omega), if_pos h2, show l.solar.jdn - s2.jdn + 1 = D - 9 by omega]
  rw [if_neg (by omega), if_neg h2]
  by_cases hl : long = true
  · rw [if_pos (hlong.1 hl), if_pos hl]
    by_cases h3 : D < 30
    · rw [if_pos (by omega), if_pos h3, show l.solar.jdn - s3.jdn + 11 = D - 9 by omega]
    rw [if_neg (by omega), if_neg h3]
    by_cases h4 : D < 40
    · rw [if_pos (by omega), if_pos h4, show l.solar.jdn - s4.jdn + 1 = D - 29 by omega]
    · rw [if_neg (by omega), if_neg h4]
  · rw [if_neg (fun h => hl (hlong.2 h)), if_neg hl]
    by_cases h3 : D < 30
    · rw [if_pos (by omega), if_pos h3, show l.solar.jdn - s3.jdn + 1 = D - 19 by omega]
    · rw [if_neg (by omega), if_neg h3]

theorem wuHou_len : Gen.Tables.LunarUtil.WU_HOU.length = 72 ∧ Gen.Tables.LunarUtil.HOU.length = 3 := by
  decide

theorem jieqi_idx_at (i : Nat) (hi : i < 31) :
    calendar.JIE_QI.findIdx? (· == convertJieQi (calendar.JIE_QI_IN_USE.getD i "")) = some ((i + 23) % 24) := by
  have hk : (i + 23) % 24 < calendar.JIE_QI.length := by rw [names_len.2]; omega
  rw [eq_of_beq (List.all_eq_true.1 names_canonical i (List.mem_range.2 hi)), getD_eq_getElem' _ _ _ hk]
  exact findIdx?_getElem_of_nodup jieQi_nodup _ hk

theorem filter_getLast {α : Type} (p : α → Bool) (L : List α) (i : Nat) (hi : i < L.length) (hp : p L[i] = true)
    (hn : ∀ j (hj : j < L.length), i < j → p L[j] = false) : (L.filter p).getLast? = some L[i] := by
  have hd : (L.drop (i + 1)).filter p = [] := by
    rw [List.filter_eq_nil_iff]
    intro a ha
    obtain ⟨k, hk, rfl⟩ := List.mem_iff_getElem.mp ha
    rw [List.getElem_drop]
    rw [List.length_drop] at hk
    rw [hn (i + 1 + k) (by omega) (by omega)]
    exact Bool.false_ne_true
  have hs : L = L.take i ++ L[i] :: L.drop (i + 1) := by
    rw [← List.drop_eq_getElem_cons hi, List.take_append_drop]
  calc (L.filter p).getLast? = ((L.take i ++ L[i] :: L.drop (i + 1)).filter p).getLast? := by rw [← hs]
    _ = some L[i] := by
      rw [List.filter_append, List.filter_cons, hp, if_pos rfl, hd]
      simp

theorem prevJieQi_day (y : Int) (l : Lunar) (hts : termsOk y l.terms = true) (hnow : stampValid l.solar = true)
    (i : Nat) (hi : i < 31) (hle : dayKey (l.terms.getD i nilSolar) ≤ dayKey l.solar)
    (hnext : ∀ j, i < j → j < 31 → dayKey l.solar < dayKey (l.terms.getD j nilSolar)) :
    l.prevJieQi true = some (convertJieQi (calendar.JIE_QI_IN_USE.getD i ""), l.terms.getD i nilSolar) := by
  have hsel : selected [] l.terms = termEntries l.terms := by
    unfold selected
    simp only [List.isEmpty_nil, Bool.true_or]
    exact List.filter_eq_self.mpr (fun _ _ => rfl)
  have hi' : i < (termEntries l.terms).length := entries_length l.terms ▸ hi
  have key := filter_getLast (fun e : String × Solar => decide (dayKey e.2 ≤ dayKey l.solar)) (termEntries l.terms) i hi'
    (by rw [entries_get]; exact decide_eq_true hle)
    (fun j hj hij => by
      rw [entries_get]
      exact decide_eq_false (Int.not_le.2 (hnext j hij (entries_length l.terms ▸ hj))))
  rw [Lunar.prevJieQi, near_backward_day y l [] hts hnow, hsel, key, entries_get]
  rfl

/-- PENTADS: P = the latest term (any of the 31) whose civil day is on or before today, i = its index in the table, k = today − its day:
    hou = name ++ " " ++ HOU[min 2 (k/5)], wuHou = WU_HOU[(3·c + min 2 (k/5)) % 72] where c = position of the (converted) name in the 24-name cycle JIE_QI.
    The `% 72` applies to the index, as in the Go code's `(offset*3 + index) % len(WU_HOU)`. -/
theorem hou_spec (y : Int) (l : Lunar) (hts : termsOk y l.terms = true) (hnow : stampValid l.solar = true)
    (i : Nat) (hi : i < 31) (hle : dayKey (l.terms.getD i nilSolar) ≤ dayKey l.solar)
    (hnext : ∀ j, i < j → j < 31 → dayKey l.solar < dayKey (l.terms.getD j nilSolar)) :
    let k := l.solar.jdn - (l.terms.getD i nilSolar).jdn
    let name := convertJieQi (Gen.Tables.calendar.JIE_QI_IN_USE.getD i "")
    l.hou = some (name ++ " " ++ strGetD Gen.Tables.LunarUtil.HOU (if k / 5 > 2 then 2 else k / 5)) ∧
    l.wuHou = some (strGetD Gen.Tables.LunarUtil.WU_HOU
      (((((i + 23) % 24 : Nat) : Int) * 3 + (if k / 5 > 2 then 2 else k / 5)) % 72)) := by
  intro k name
  have hp := prevJieQi_day y l hts hnow i hi hle hnext
  have hsub := subtract_eq_any l.solar (l.terms.getD i nilSolar) (stampValid_parts _ hnow).1 (term_valid hts i hi)
  have h3 : (LunarUtil.HOU.length : Int) - 1 = 2 := by decide
  have h72 : (LunarUtil.WU_HOU.length : Int) = 72 := by decide
  constructor
  · unfold Lunar.hou
    rw [hp]
    simp only [hsub, h3]
    rfl
  · unfold Lunar.wuHou
    rw [hp]
    simp only [hsub, h72, jieqi_idx_at i hi]
    rfl

/-- COLD FOOD and SHE days: reported exactly on the day before the Qingming day / on the fifth wu day (stem 4) counted from the Lichun / Liqiu day -/
theorem otherFestivals_spec (y : Int) (l : Lunar) (hts : termsOk y l.terms = true) (hnow : stampValid l.solar = true) :
    ∃ base, l.otherFestivals = some (base ++
        (if l.solar.jdn = (l.terms.getD 8 nilSolar).jdn - 1 then ["寒食节"] else []) ++
        (if l.solar.jdn = (l.terms.getD 4 nilSolar).jdn + (4 - ((l.terms.getD 4 nilSolar).jdn - 11) % 10) % 10 + 40 then ["春社"] else []) ++
        (if l.solar.jdn = (l.terms.getD 16 nilSolar).jdn + (4 - ((l.terms.getD 16 nilSolar).jdn - 11) % 10) % 10 + 40 then ["秋社"] else [])) ∧
      base = (match lookupI Gen.Tables.LunarUtil.OTHER_FESTIVAL_ikeys Gen.Tables.LunarUtil.OTHER_FESTIVAL [l.month, l.day] with | some f => f | none => []) := by
  refine ⟨_, ?_, rfl⟩
  -- the three computed days lie between table entries 4 and 8, resp. 16 and 20, hence in the printable range
  have r4 := term_jdn_range hts 4
  have r8 := term_jdn_range hts 8
  have r16 := term_jdn_range hts 16
  have r20 := term_jdn_range hts 20
  have g4 := term_days hts 4 8
  have g16 := term_days hts 16 20
  obtain ⟨hs, ehs, vhs, jhs, _⟩ := nextDay_spec_strong (l.terms.getD 8 nilSolar) (-1) (term_valid hts 8)
  obtain ⟨cs, ecs, vcs, jcs, _⟩ := nextDay_spec_strong (l.terms.getD 4 nilSolar)
    ((4 - ((l.terms.getD 4 nilSolar).jdn - 11) % 10) % 10 + 40) (term_valid hts 4)
  obtain ⟨qs, eqs, vqs, jqs, _⟩ := nextDay_spec_strong (l.terms.getD 16 nilSolar)
    ((4 - ((l.terms.getD 16 nilSolar).jdn - 11) % 10) % 10 + 40) (term_valid hts 16)
  have shs := (stampValid_iff_jdn hs vhs).2 (by omega)
  have scs := (stampValid_iff_jdn cs vcs).2 (by omega)
  have sqs := (stampValid_iff_jdn qs vqs).2 (by omega)
  unfold Lunar.otherFestivals
  simp only [termByName_qingMing, termByName_liChun, termByName_liQiu, gan_off 4, ehs, ecs, eqs,
    keyOrd_jdn.eq _ _ hnow shs, keyOrd_jdn.eq _ _ hnow scs, keyOrd_jdn.eq _ _ hnow sqs, decide_eq_true_eq,
    jhs, jcs, jqs, ← Int.add_assoc, ← Int.sub_eq_add_neg]
  rfl

/-- NEW YEAR'S EVE as the code computes it: reported iff (|month| = 12 ∧ day ≥ 29 ∧ the next day's lunar year differs) -/
theorem festivals_spec (A : Astro) (l nx : Lunar) (h : l.next A 1 = some nx) :
    l.festivals A = some ((match lookupI Gen.Tables.LunarUtil.FESTIVAL_ikeys Gen.Tables.LunarUtil.FESTIVAL [l.month, l.day] with | some f => [f] | none => []) ++
      (if (l.month = 12 ∨ l.month = -12) ∧ l.day ≥ 29 ∧ l.year ≠ nx.year then ["除夕"] else [])) := by
  have hm : (if l.month < 0 then -l.month else l.month) = 12 ↔ (l.month = 12 ∨ l.month = -12) := by
    split <;> omega
  unfold Lunar.festivals
  simp only [h, hm]
  by_cases hc : (l.month = 12 ∨ l.month = -12) ∧ l.day ≥ 29
  · by_cases hy : l.year ≠ nx.year
    · rw [if_pos hc, if_pos hy, if_pos ⟨hc.1, hc.2, hy⟩]
      rfl
    · rw [if_pos hc, if_neg hy, if_neg (fun hh => hy hh.2.2), List.append_nil]
      rfl
  · rw [if_neg hc, if_neg (fun hh => hc ⟨hh.1, hh.2.1⟩), List.append_nil]
    rfl

#print axioms shuJiu_spec
#print axioms geng_first
#print axioms fu_spec
#print axioms hou_spec
#print axioms wuHou_len
#print axioms otherFestivals_spec
#print axioms festivals_spec

end Model
