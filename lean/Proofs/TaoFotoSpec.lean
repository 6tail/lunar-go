/-
Proofs.TaoFotoSpec — C17: Taoist / Buddhist year offsets, constructors, day-class predicates.
-/
import Model.TaoFoto
import Proofs.Convert
namespace Model
open Gen.Tables

theorem tao_year (l : Lunar) : taoYear l = l.year + 2697 := by
  unfold taoYear calendar.BIRTH_YEAR
  omega

theorem foto_year (l : Lunar) : fotoYear l = l.year + 544 := by
  unfold fotoYear calendar.DEAD_YEAR
  omega

theorem newTao_roundtrip (A : Astro) (lo hi : Int) (h : AstroOK A lo hi) (y m d hh mi ss : Int) (l : Lunar)
    (hy : 2 ≤ y - 2697) (hlo : lo < y - 2697) (hhi : y - 2697 < hi) (hl : newTao A y m d hh mi ss = some l) :
    taoYear l = y ∧ l.month = m ∧ l.day = d ∧ l.hour = hh ∧ l.minute = mi ∧ l.second = ss ∧ Lunar.fromSolar A l.solar = some l ∧
    Lunar.fromYmdHms A (y - 2697) m d hh mi ss = some l := by
  have e : y + calendar.BIRTH_YEAR = y - 2697 := by unfold calendar.BIRTH_YEAR; omega
  unfold newTao at hl
  rw [e] at hl
  obtain ⟨a1, a2, a3, a4, a5, a6, a7, a8⟩ := fromSolar_fromYmd A lo hi h (y - 2697) m d hh mi ss l hy hlo hhi hl
  refine ⟨?_, a3, a4, a5, a6, a7, a8, hl⟩
  rw [tao_year, a2]
  omega

theorem newFoto_roundtrip (A : Astro) (lo hi : Int) (h : AstroOK A lo hi) (y m d hh mi ss : Int) (l : Lunar)
    (hy : 2 ≤ y - 544) (hlo : lo < y - 544) (hhi : y - 544 < hi) (hl : newFoto A y m d hh mi ss = some l) :
    fotoYear l = y ∧ l.month = m ∧ l.day = d ∧ l.hour = hh ∧ l.minute = mi ∧ l.second = ss ∧ Lunar.fromSolar A l.solar = some l ∧
    Lunar.fromYmdHms A (y - 544) m d hh mi ss = some l := by
  have e : y + calendar.DEAD_YEAR - 1 = y - 544 := by unfold calendar.DEAD_YEAR; omega
  unfold newFoto at hl
  rw [e] at hl
  obtain ⟨a1, a2, a3, a4, a5, a6, a7, a8⟩ := fromSolar_fromYmd A lo hi h (y - 544) m d hh mi ss l hy hlo hhi hl
  refine ⟨?_, a3, a4, a5, a6, a7, a8, hl⟩
  rw [foto_year, a2]
  omega

/-- the Taoist day-class predicates depend only on lunar month, lunar day, day pillar and the day's solar term -/
theorem tao_preds_congr (l l' : Lunar) (hm : l.month = l'.month) (hd : l.day = l'.day) (hg : l.dayGanIndex = l'.dayGanIndex) (hz : l.dayZhiIndex = l'.dayZhiIndex)
    (hj : l.jieQi = l'.jieQi) :
    taoSanHui l = taoSanHui l' ∧ taoSanYuan l = taoSanYuan l' ∧ taoWuLa l = taoWuLa l' ∧ taoBaJie l = taoBaJie l' ∧ taoBaHui l = taoBaHui l' ∧
    taoMingWu l = taoMingWu l' ∧ taoAnWu l = taoAnWu l' ∧ taoWu l = taoWu l' ∧ taoFestivals l = taoFestivals l' := by
  simp only [taoSanHui, taoSanYuan, taoWuLa, taoBaJie, taoBaHui, taoMingWu, taoAnWu, taoWu, taoFestivals, taoIsDayIn,
    hm, hd, hg, hz, hj, and_self]

/-- the Buddhist ones depend only on the lunar (year, month, day); the year enters through the month length
that `fotoZhaiSix` looks up -/
theorem foto_preds_congr (A : Astro) (l l' : Lunar) (hy : l.year = l'.year) (hm : l.month = l'.month) (hd : l.day = l'.day) :
    fotoMonthZhai l = fotoMonthZhai l' ∧ fotoYangGong l = fotoYangGong l' ∧ fotoZhaiShuoWang l = fotoZhaiShuoWang l' ∧ fotoZhaiSix A l = fotoZhaiSix A l' ∧
    fotoZhaiTen l = fotoZhaiTen l' ∧ fotoZhaiGuanYin l = fotoZhaiGuanYin l' ∧ fotoXiu l = fotoXiu l' ∧ fotoFestivalNames l = fotoFestivalNames l' := by
  simp only [fotoMonthZhai, fotoYangGong, fotoZhaiShuoWang, fotoZhaiSix, fotoZhaiTen, fotoZhaiGuanYin, fotoXiu, fotoFestivalNames,
    hy, hm, hd, and_self]

theorem foto_zhaiSix_needs_only_length (A : Astro) (l l' : Lunar) (hd : l.day = l'.day)
    (hlen : (findMonth (A l.year).months l.year l.month).map (·.dayCount) = (findMonth (A l'.year).months l'.year l'.month).map (·.dayCount)) :
    fotoZhaiSix A l = fotoZhaiSix A l' := by
  unfold fotoZhaiSix
  simp only [hd]
  revert hlen
  cases findMonth (A l.year).months l.year l.month <;> cases findMonth (A l'.year).months l'.year l'.month <;>
    intro hlen
  · rfl
  · cases hlen
  · cases hlen
  · rename_i a b
    have e : a.dayCount = b.dayCount := Option.some.inj hlen
    simp only [e]

#print axioms tao_year
#print axioms foto_year
#print axioms newTao_roundtrip
#print axioms newFoto_roundtrip
#print axioms tao_preds_congr
#print axioms foto_preds_congr
#print axioms foto_zhaiSix_needs_only_length

end Model
