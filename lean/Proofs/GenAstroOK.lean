/-
Proofs.GenAstroOK — the regenerated oracle `genAstro` passes the well-formedness checkers on lunar years
0..10000, assembled from the per-block kernel-checked obligations of `Gen/AstroK`; and an oracle that
is wrong outside 0..10000 (`cexAstro`), for which `fromYmd_ok_iff_partial` fails without its range restriction.
-/
import Proofs.WFDefs
import Gen.AstroKAll
-- the bound hypotheses inside the refuted statement of `fromYmd_ok_iff_false` are not referenced
set_option linter.unusedVariables false
namespace Model

open Gen.Astro (blockList)

/-! The block checkers are unfolded once, over an arbitrary list `l`, so the regenerated data stay opaque. -/

theorem checkBlock_spec : ∀ (l : List (Nat × Nat)) (base : Int) (k : Nat) (p : Nat × Nat) (y : Int),
    checkBlock base l = true → l[k]? = some p → y = base + k →
    yearOk y (decodeYear y p) = true ∧
      ∀ q, l[k + 1]? = some q → pairOk y (decodeYear y p) (decodeYear (y + 1) q) = true
  | [], _, _, _, _, _, hk, _ => by simp at hk
  | [a], _, k + 1, _, _, _, hk, _ => by simp at hk
  | [a], base, 0, p, y, h, hk, hy => by
    obtain rfl : a = p := by simpa using hk
    obtain rfl : y = base := by simpa using hy
    exact ⟨h, nofun⟩
  | a :: b :: rest, base, 0, p, y, h, hk, hy => by
    obtain rfl : a = p := by simpa using hk
    obtain rfl : y = base := by simpa using hy
    simp only [checkBlock, Bool.and_eq_true] at h
    exact ⟨h.1.1, fun q hq => (show b = q by simpa using hq) ▸ h.1.2⟩
  | a :: b :: rest, base, k + 1, p, y, h, hk, hy => by
    simp only [checkBlock, Bool.and_eq_true] at h
    exact checkBlock_spec (b :: rest) (base + 1) k p y h.2 (by simpa using hk) (by omega)

theorem checkLeapBlock_spec : ∀ (l : List (Nat × Nat)) (base : Int) (k : Nat) (p : Nat × Nat) (y : Int),
    checkLeapBlock base l = true → l[k]? = some p → y = base + k →
    (!leapRuleRange y || leapRuleOk y (decodeYear y p)) = true
  | [], _, _, _, _, _, hk, _ => by simp at hk
  | a :: rest, base, 0, p, y, h, hk, hy => by
    obtain rfl : a = p := by simpa using hk
    obtain rfl : y = base := by simpa using hy
    simp only [checkLeapBlock, Bool.and_eq_true] at h
    exact h.1
  | a :: rest, base, k + 1, p, y, h, hk, hy => by
    simp only [checkLeapBlock, Bool.and_eq_true] at h
    exact checkLeapBlock_spec rest (base + 1) k p y h.2 (by simpa using hk) (by omega)

/-- every block holds 26 records (25 years and the first year of the next block) -/
theorem blockLens_ok : (List.range 400).all (fun c => (blockList c).length == 26) = true := by
  decide +kernel

theorem blockLen (c : Nat) (h : c < 400) : (blockList c).length = 26 := by
  simpa using List.all_eq_true.1 blockLens_ok c (List.mem_range.2 h)

theorem getD_some {α : Type} (l : List α) (k : Nat) (d : α) (h : k < l.length) : l[k]? = some (l.getD k d) := by
  simp [List.getD, List.getElem?_eq_getElem h]

theorem overlap (c : Nat) (h : c < 399) : (blockList (c + 1))[0]? = (blockList c)[25]? := by
  have := List.all_eq_true.1 Gen.AstroK.overlap_ok c (List.mem_range.2 h)
  rw [beq_iff_eq, List.getLast?_eq_getElem?, List.head?_eq_getElem?, blockLen c (by omega)] at this
  exact this.symm

theorem packedL_of (n c : Nat) (h : (if n / 25 ≥ 400 then 399 else n / 25) = c) :
    packedL n = (blockList c).getD (n - 25 * c) (0, 0) :=
  h ▸ rfl

theorem packedL_block (c k : Nat) (hc : c < 400) (hk : k ≤ 25) :
    (blockList c)[k]? = some (packedL (25 * c + k)) := by
  by_cases h : k = 25 ∧ c < 399
  · -- `packedL` reads year 25 (c + 1) from block c + 1, where it is entry 0
    obtain ⟨rfl, hc'⟩ := h
    rw [packedL_of _ (c + 1) (by split <;> omega), show 25 * c + 25 - 25 * (c + 1) = 0 by omega,
      ← overlap c hc']
    exact getD_some _ _ _ (by rw [blockLen _ (by omega)]; omega)
  · rw [packedL_of _ c (by split <;> omega), show 25 * c + k - 25 * c = k by omega]
    exact getD_some _ _ _ (by rw [blockLen c hc]; omega)

theorem genAstro_block (c k : Nat) (hc : c < 400) (hk : k ≤ 25) {y : Int} (hy : y = 25 * c + k) :
    ∃ p, (blockList c)[k]? = some p ∧ genAstro y = decodeYear y p := by
  refine ⟨_, packedL_block c k hc hk, ?_⟩
  unfold genAstro
  rw [if_pos (by omega), show y.toNat = 25 * c + k by omega]

theorem block_index (y : Int) (h0 : 0 ≤ y) (h1 : y ≤ 10000) :
    ∃ c k : Nat, c < 400 ∧ k ≤ 25 ∧ (y < 10000 → k < 25) ∧ y = 25 * c + k := by
  by_cases h : y = 10000
  · exact ⟨399, 25, by omega, by omega, by omega, by omega⟩  -- the 26th record of the last block
  · exact ⟨y.toNat / 25, y.toNat % 25, by omega, by omega, by omega, by omega⟩

/-- the regenerated oracle is well-formed on lunar years 0..10000 -/
theorem genAstro_ok : AstroOK genAstro 0 10000 := by
  constructor
  · intro y h0 h1
    obtain ⟨c, k, hc, hk, _, hy⟩ := block_index y h0 h1
    obtain ⟨p, hp, e⟩ := genAstro_block c k hc hk hy
    rw [e]
    exact (checkBlock_spec _ _ k p y (Gen.AstroK.blocks_ok c hc) hp hy).1
  · intro y h0 h1
    obtain ⟨c, k, hc, _, hk, hy⟩ := block_index y h0 (by omega)
    obtain ⟨p, hp, e⟩ := genAstro_block c k hc (by omega) hy
    obtain ⟨q, hq, e'⟩ := genAstro_block c (k + 1) hc (by omega) (y := y + 1) (by omega)
    rw [e, e']
    exact (checkBlock_spec _ _ k p y (Gen.AstroK.blocks_ok c hc) hp hy).2 q hq

/-- and obeys the no-major-term leap rule on 1929..3000 -/
theorem genAstro_leap : LeapRuleOK genAstro 0 10000 := by
  intro y h0 h1 hr
  obtain ⟨c, k, hc, hk, _, hy⟩ := block_index y h0 h1
  obtain ⟨p, hp, e⟩ := genAstro_block c k hc hk hy
  have := checkLeapBlock_spec _ _ k p y (Gen.AstroK.blocks_leap c hc) hp hy
  rw [e]
  simpa [hr] using this

/-! ## `fromYmd_ok_iff_partial` without `lo ≤ s.year ≤ hi` is false for an arbitrary oracle

`AstroOK A lo hi` says nothing about `A` outside `lo..hi`; an oracle that is `genAstro` on 0..10000 and carries one
made-up 100-day "month 1 of lunar year 5000" in its table of civil year 20000 converts the valid civil date
20000-03-01 to the lunar triple (5000, 1, 61), which the constructor rejects (month 1 of 5000 has 30 days). -/

def cexAstro : Astro := fun y =>
  if y = 20000 then { months := [⟨5000, 1, 100, jdn 20000 1 1, 1⟩], terms := [], hs := [], jq := [] } else genAstro y

def cexSolar : Solar := ⟨20000, 3, 1, 0, 0, 0⟩

theorem AstroOK.congr {A B : Astro} {lo hi : Int} (h : AstroOK A lo hi)
    (e : ∀ y, lo ≤ y → y ≤ hi → B y = A y) : AstroOK B lo hi :=
  ⟨fun y h0 h1 => e y h0 h1 ▸ h.year y h0 h1, fun y h0 h1 => by
    rw [e y h0 (by omega), e (y + 1) (by omega) h1]; exact h.pair y h0 h1⟩

theorem cexAstro_ok : AstroOK cexAstro 0 10000 :=
  genAstro_ok.congr fun y _ h1 => if_neg (by omega)

theorem cex_image : cexSolar.valid = true ∧ ∃ l, Lunar.fromSolar cexAstro cexSolar = some l ∧
    l.year = 5000 ∧ l.month = 1 ∧ l.day = 61 := by
  have hf : findLunarYmd cexSolar (cexAstro cexSolar.year).months = some (5000, 1, 61) := by decide +kernel
  refine ⟨by decide +kernel, computeAll 5000 1 61 0 0 0 cexSolar (cexAstro 20000), ?_, rfl, rfl, rfl⟩
  unfold Lunar.fromSolar
  simp only [hf]
  rfl

theorem cex_rejected : (Lunar.fromYmdHms cexAstro 5000 1 61 0 0 0).isSome = false := by decide +kernel

/-- `fromYmd_ok_iff_partial` without the range restriction on the civil day does not hold for every well-formed oracle -/
theorem fromYmd_ok_iff_false :
    ¬ (∀ (A : Astro) (lo hi : Int) (h : AstroOK A lo hi) (ly lm ld hh mi ss : Int)
        (hy : 2 ≤ ly) (hlo : lo < ly) (hhi : ly < hi),
        (Lunar.fromYmdHms A ly lm ld hh mi ss).isSome = true ↔
          (validHms hh mi ss = true ∧ ∃ s : Solar, s.valid = true ∧ ∃ l, Lunar.fromSolar A s = some l ∧
            l.year = ly ∧ l.month = lm ∧ l.day = ld)) := by
  intro hall
  have := (hall cexAstro 0 10000 cexAstro_ok 5000 1 61 0 0 0 (by omega) (by omega) (by omega)).2
    ⟨by decide, cexSolar, cex_image.1, cex_image.2⟩
  rw [cex_rejected] at this
  cases this

end Model

#print axioms Model.genAstro_ok
#print axioms Model.genAstro_leap
#print axioms Model.fromYmd_ok_iff_false
