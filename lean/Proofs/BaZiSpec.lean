/-
Proofs.BaZiSpec — C10: the reverse lookup `ListSolarFromBaZiBySectAndBaseYear`.  Every returned moment has the four
requested pillars (`baZi_sound`), within one candidate year the moments come in hour order (`baZi_year_sorted`), and none
is earlier than the base year (`baZi_base`, `baZi_base_of_valid_terms`).  All three are read off `baZi_mem`, which says
where a returned moment comes from.
-/
import Model.EightChar
import Proofs.CivilArith
import Proofs.JiaZi
namespace Model
open Gen.Tables

theorem bz_ite_cases {α : Type} {c : Prop} [Decidable c] {a b d : α} (h : (if c then a else b) = d) :
    (c ∧ a = d) ∨ (¬ c ∧ b = d) := by
  by_cases hc : c
  · rw [if_pos hc] at h; exact Or.inl ⟨hc, h⟩
  · rw [if_neg hc] at h; exact Or.inr ⟨hc, h⟩

/-- the pillar test of the reverse lookup, with the already normalised sect (1 or 2) -/
def bz_test (A : Astro) (yg mg dg tg : String) (sect : Int) (s : Solar) : Prop :=
  ∃ l, Lunar.fromSolar A s = some l ∧
    EightChar.pillarStr l.yearGanIndexExact l.yearZhiIndexExact = yg ∧ EightChar.pillarStr l.monthGanIndexExact l.monthZhiIndexExact = mg ∧
    (if sect = 2 then EightChar.pillarStr l.dayGanIndexExact2 l.dayZhiIndexExact2 else EightChar.pillarStr l.dayGanIndexExact l.dayZhiIndexExact) = dg ∧
    EightChar.pillarStr l.timeGanIndex l.timeZhiIndex = tg

/-- a fold that stops on `none` and appends at most one element per input collects keys that are a subsequence of the inputs -/
theorem foldl_collect {α β : Type} (f : Option (List α) → β → Option (List α)) (key : α → β) (Q : α → Prop)
    (hn : ∀ b, f none b = none)
    (hs : ∀ found r b, f (some found) b = some r → r = found ∨ ∃ x, r = found ++ [x] ∧ key x = b ∧ Q x) :
    ∀ (bs : List β) (found res : List α), bs.foldl f (some found) = some res →
      ∃ add, res = found ++ add ∧ (add.map key).Sublist bs ∧ ∀ x ∈ add, Q x
  | [], found, res, h => by
    cases h
    exact ⟨[], by simp, List.Sublist.slnil, fun _ hx => by cases hx⟩
  | b :: bs, found, res, h => by
    rw [List.foldl_cons] at h
    cases hstep : f (some found) b with
    | none =>
      have hnone : ∀ l : List β, l.foldl f none = none := fun l => by
        induction l with
        | nil => rfl
        | cons c l ih => rw [List.foldl_cons, hn, ih]
      rw [hstep, hnone] at h
      cases h
    | some r =>
      rw [hstep] at h
      obtain ⟨add, rfl, hsub, hq⟩ := foldl_collect f key Q hn hs bs r res h
      rcases hs found r b hstep with rfl | ⟨x, rfl, hk, hx⟩
      · exact ⟨add, rfl, hsub.cons b, hq⟩
      · refine ⟨x :: add, by simp, ?_, ?_⟩
        · rw [List.map_cons, hk]
          exact hsub.cons_cons b
        · intro z hz
          rcases List.mem_cons.1 hz with rfl | hz
          · exact hx
          · exact hq z hz

theorem bz_jiaZiIndex_bounds (s : String) : -1 ≤ jiaZiIndexOfStr s ∧ jiaZiIndexOfStr s ≤ 59 := by
  have hlen := jiazi_len
  unfold jiaZiIndexOfStr
  split
  · rename_i i hi
    have := (List.findIdx?_eq_some_iff_findIdx_eq.mp hi).1
    omega
  · omega

theorem bz_findStr_bounds (name : String) : -1 ≤ findStr name LunarUtil.ZHI (-1) ∧ findStr name LunarUtil.ZHI (-1) ≤ 11 := by
  have hlen : LunarUtil.ZHI.length = 13 := by decide
  unfold findStr
  split
  · rename_i i hi
    have := (List.findIdx?_eq_some_iff_findIdx_eq.mp hi).1
    omega
  · omega

theorem bz_year_inv {A : Astro} {yg mg dg tg : String} {sect base m : Int} {hours : List Int} {y : Int} {res : List Solar}
    (h : baZiYear A yg mg dg tg sect base m hours y = some res) :
    res = [] ∨ ∃ (l0 : Lunar) (t st : Solar), Lunar.fromSolar A ⟨y, 1, 1, 0, 0, 0⟩ = some l0 ∧
      t = termByName l0.terms (calendar.JIE_QI_IN_USE.getD (4 + m).toNat "") ∧ base ≤ t.year ∧
      (st = t ∨ ∃ d, 0 < d ∧ d ≤ 60 ∧ t.nextDay d = some st) ∧ (res.map Solar.hour).Sublist hours ∧
      ∀ x ∈ res, bz_test A yg mg dg tg sect x ∧ x.year = st.year ∧ x.month = st.month ∧ x.day = st.day := by
  unfold baZiYear at h
  split at h
  · cases h
  · rename_i l0 hl0
    simp only at h
    rcases bz_ite_cases h with ⟨_, e⟩ | ⟨hb, h⟩
    · cases e
      exact Or.inl rfl
    · split at h
      · cases h
      · rename_i lt hlt
        split at h
        · cases h
        · rename_i st hst
          refine Or.inr ⟨l0, _, st, hl0, rfl, Int.not_lt.1 hb, ?_, ?_⟩
          · rcases bz_ite_cases hst with ⟨hd, e⟩ | ⟨_, e⟩
            · -- the day offset is a difference of two sexagenary indices, taken mod 60
              have b1 := bz_jiaZiIndex_bounds dg
              have b2 : -1 ≤ ganZhiIndex lt.dayGanIndexExact2 lt.dayZhiIndexExact2 ∧
                  ganZhiIndex lt.dayGanIndexExact2 lt.dayZhiIndexExact2 ≤ 59 := bz_jiaZiIndex_bounds _
              refine Or.inr ⟨_, hd, ?_, e⟩
              split <;> omega
            · cases e
              exact Or.inl rfl
          · have := foldl_collect _ Solar.hour
              (fun x => bz_test A yg mg dg tg sect x ∧ x.year = st.year ∧ x.month = st.month ∧ x.day = st.day)
              (fun _ => rfl) ?_ hours [] res h
            · obtain ⟨add, rfl, hq⟩ := this
              exact hq
            -- one step of the hour loop keeps the list or appends one moment of the day `st` at the requested hour
            intro found r hour hstep
            simp only at hstep
            split at hstep
            · cases hstep
            · rename_i solar hsol
              obtain ⟨rfl, _⟩ := newSolar_inv _ _ _ _ _ _ _ hsol
              split at hstep
              · cases hstep
              · rename_i lunar hlun
                rcases bz_ite_cases hstep with ⟨hc, hstep⟩ | ⟨_, hstep⟩
                · simp only [Bool.and_eq_true, beq_iff_eq] at hc
                  cases hstep
                  exact Or.inr ⟨_, rfl, rfl, ⟨lunar, hlun, hc.1.1.1, hc.1.1.2, hc.1.2, hc.2⟩, rfl, rfl, rfl⟩
                · cases hstep
                  exact Or.inl rfl

theorem bz_loop_mem {A : Astro} {yg mg dg tg : String} {sect base m : Int} {hours : List Int} {endYear : Int} :
    ∀ (fuel : Nat) (y : Int) (res : List Solar), baZiLoop A yg mg dg tg sect base m hours endYear fuel y = some res →
      ∀ s ∈ res, ∃ y' r, baZiYear A yg mg dg tg sect base m hours y' = some r ∧ s ∈ r
  | 0, y, res, h, s, hs => by
    simp only [baZiLoop, Option.some.injEq] at h
    subst h; cases hs
  | fuel + 1, y, res, h, s, hs => by
    unfold baZiLoop at h
    split at h
    · cases h; cases hs
    · simp only at h
      split at h
      · rename_i a b ha hb
        cases h
        rw [List.mem_append] at hs
        rcases hs with hs | hs
        · split at ha
          · exact ⟨y, a, ha, hs⟩
          · cases ha; cases hs
        · exact bz_loop_mem fuel (y + 60) b hb s hs
      · cases h

theorem baZi_mem {A : Astro} {yg mg dg tg : String} {sect base endYear : Int} {res : List Solar} {s : Solar}
    (h : listSolarFromBaZi A yg mg dg tg sect base endYear = some res) (hs : s ∈ res) :
    ∃ (y : Int) (l0 : Lunar) (i : Nat) (t st : Solar), i ≤ 26 ∧ Lunar.fromSolar A ⟨y, 1, 1, 0, 0, 0⟩ = some l0 ∧
      t = termByName l0.terms (calendar.JIE_QI_IN_USE.getD i "") ∧ base ≤ t.year ∧
      (st = t ∨ ∃ d, 0 < d ∧ d ≤ 60 ∧ t.nextDay d = some st) ∧
      bz_test A yg mg dg tg (if sect != 1 then 2 else 1) s ∧ s.year = st.year := by
  unfold listSolarFromBaZi at h
  simp only at h
  rcases bz_ite_cases h with ⟨_, e⟩ | ⟨_, h⟩
  · cases e; cases hs
  · have b := bz_findStr_bounds (restChars mg)
    obtain ⟨y, r, hr, hsr⟩ := bz_loop_mem _ _ _ h s hs
    rcases bz_year_inv hr with rfl | ⟨l0, t, st, hl0, ht, hb, hst, _, hq⟩
    · cases hsr
    · obtain ⟨hp, hy, _⟩ := hq s hsr
      exact ⟨y, l0, _, t, st, by split <;> omega, hl0, ht, hb, hst, hp, hy⟩

/-- every returned moment really has the four requested pillars under the requested day-boundary convention -/
theorem baZi_sound (A : Astro) (yg mg dg tg : String) (sect base endYear : Int) (res : List Solar) (s : Solar)
    (h : listSolarFromBaZi A yg mg dg tg sect base endYear = some res) (hs : s ∈ res) :
    ∃ l, Lunar.fromSolar A s = some l ∧
      EightChar.pillarStr l.yearGanIndexExact l.yearZhiIndexExact = yg ∧ EightChar.pillarStr l.monthGanIndexExact l.monthZhiIndexExact = mg ∧
      (if (if sect != 1 then (2:Int) else 1) = 2 then EightChar.pillarStr l.dayGanIndexExact2 l.dayZhiIndexExact2 else EightChar.pillarStr l.dayGanIndexExact l.dayZhiIndexExact) = dg ∧
      EightChar.pillarStr l.timeGanIndex l.timeZhiIndex = tg := by
  obtain ⟨_, _, _, _, _, _, _, _, _, _, hp, _⟩ := baZi_mem h hs
  exact hp

/-- within one candidate year the moments come out in increasing hour order (0 before 23) -/
theorem baZi_year_sorted (A : Astro) (yg mg dg tg : String) (sect base m : Int) (hours : List Int) (y : Int) (res : List Solar)
    (hh : hours = [0, 23] ∨ ∃ h, hours = [h]) (h : baZiYear A yg mg dg tg sect base m hours y = some res) :
    res.length ≤ 2 ∧ (∀ a b, res = [a, b] → a.year = b.year ∧ a.month = b.month ∧ a.day = b.day ∧ a.hour = 0 ∧ b.hour = 23) := by
  rcases bz_year_inv h with rfl | ⟨_, _, st, _, _, _, _, hsub, hq⟩
  · exact ⟨Nat.zero_le _, fun a b hab => by cases hab⟩
  · have hlen := hsub.length_le
    rw [List.length_map] at hlen
    rcases hh with rfl | ⟨h1, rfl⟩
    · refine ⟨hlen, fun a b hab => ?_⟩
      subst hab
      obtain ⟨_, ya, ma, da⟩ := hq a (by simp)
      obtain ⟨_, yb, mb, db⟩ := hq b (by simp)
      have := hsub.eq_of_length rfl
      simp only [List.map_cons, List.map_nil, List.cons.injEq, and_true] at this
      exact ⟨ya.trans yb.symm, ma.trans mb.symm, da.trans db.symm, this.1, this.2⟩
    · refine ⟨Nat.le_succ_of_le hlen, fun a b hab => ?_⟩
      subst hab
      exact absurd hlen (by simp)

/-- no returned moment is earlier than the base year, provided stepping forward by 1..60 days from a date of a
year ≥ base stays in a year ≥ base (`hstep`; `baZi_base_of_valid_terms` derives it from valid term stamps) -/
theorem baZi_base (A : Astro) (yg mg dg tg : String) (sect base endYear : Int) (res : List Solar)
    (hstep : ∀ (t st : Solar) (d : Int), base ≤ t.year → 0 < d → d ≤ 60 → t.nextDay d = some st → base ≤ st.year)
    (h : listSolarFromBaZi A yg mg dg tg sect base endYear = some res) : ∀ s ∈ res, base ≤ s.year := by
  intro s hs
  obtain ⟨_, _, _, t, st, _, _, _, hb, hst, _, hy⟩ := baZi_mem h hs
  rw [hy]
  rcases hst with rfl | ⟨d, hd, hd60, e⟩
  · exact hb
  · exact hstep t st d hb hd hd60 e

theorem bz_nextDay_year_mono {t st : Solar} {d : Int} (hv : t.valid = true) (hd : 0 < d) (h : t.nextDay d = some st) :
    t.year ≤ st.year := by
  obtain ⟨r, hr, rv, rj, _⟩ := nextDay_spec_strong t d hv
  cases hr.symm.trans h
  apply Int.not_lt.1
  intro hc
  have := civil_year_mono st t rv hv hc
  omega

/-- the same with the step hypothesis discharged: it is enough that the Jie stamps of the tables the loop consults
(entries 4, 6, …, 26 of the table of `NewSolarFromYmd(y, 1, 1).GetLunar()`, the civil year's table) are valid date-times — a table fact about the oracle -/
theorem baZi_base_of_valid_terms (A : Astro) (yg mg dg tg : String) (sect base endYear : Int) (res : List Solar)
    (hterm : ∀ (y : Int) (l0 : Lunar) (i : Nat), i ≤ 26 → Lunar.fromSolar A ⟨y, 1, 1, 0, 0, 0⟩ = some l0 →
      (termByName l0.terms (calendar.JIE_QI_IN_USE.getD i "")).valid = true)
    (h : listSolarFromBaZi A yg mg dg tg sect base endYear = some res) : ∀ s ∈ res, base ≤ s.year := by
  intro s hs
  obtain ⟨y, l0, i, t, st, hi, hl0, rfl, hb, hst, _, hy⟩ := baZi_mem h hs
  rw [hy]
  rcases hst with rfl | ⟨d, hd, _, e⟩
  · exact hb
  · exact Int.le_trans hb (bz_nextDay_year_mono (hterm y l0 i hi hl0) hd e)

#print axioms baZi_sound
#print axioms baZi_year_sorted
#print axioms baZi_base
#print axioms baZi_base_of_valid_terms

end Model
