/-
Proofs.FnE2ECivil — the spec theorems of the model carried over to the GENERATED civil arithmetic:
`NextDay` advances the day number by `n` (total, round trip, additivity), `Subtract` is the
difference of day numbers, `IsBefore` / `IsAfter` compare time stamps (strict order, trichotomy).
-/
import Proofs.CivilArith
import Proofs.FnCivil2

-- fixed statements below carry year guards (`1 ≤ _.year`) that no proof needs
set_option linter.unusedVariables false

namespace FnE2E

open FnEq

/-- Total form.  For a valid receiver and enough fuel the generated `Solar.NextDay` never panics
and never runs out of fuel; its result is valid, its day number is exactly `n` larger and the time
of day is unchanged.  (No year bound is needed; for years `< 1` the model's day number `Model.jdn`
(Euclidean `/`) is not the Go float expression, so for the Go code the content is the one for
years `≥ 1`.) -/
theorem nextDay_total (fuel : Nat) (s : Gen.Fn.Solar) (n : Int)
    (hs : (toM s).valid = true) (hf : n.natAbs + 2 ≤ fuel) :
    ∃ r, Gen.Fn.calendar_Solar_NextDay fuel s n = .ok r ∧ (toM r).valid = true ∧
      (toM r).jdn = (toM s).jdn + n ∧
      r.hour = s.hour ∧ r.minute = s.minute ∧ r.second = s.second := by
  obtain ⟨r, e, h⟩ := Model.nextDay_spec_strong (toM s) n hs
  exact ⟨ofM r, by rw [solarNextDay_eq fuel s n hs hf, e], h⟩

/-- Partial-correctness form: whatever `.ok` value the generated code returns has the property. -/
theorem nextDay_jdn (fuel : Nat) (s r : Gen.Fn.Solar) (n : Int)
    (hs : (toM s).valid = true) (hf : n.natAbs + 2 ≤ fuel)
    (h : Gen.Fn.calendar_Solar_NextDay fuel s n = .ok r) :
    (toM r).jdn = (toM s).jdn + n ∧ (toM r).valid = true ∧
      r.hour = s.hour ∧ r.minute = s.minute ∧ r.second = s.second := by
  obtain ⟨r', e, hv, hj, a⟩ := nextDay_total fuel s n hs hf
  cases e.symm.trans h
  exact ⟨hj, hv, a⟩

/-- `nextDay_total` restricted to the years `≥ 1`, where the model's day number is the Go one. -/
theorem nextDay_ok_of_year (fuel : Nat) (s : Gen.Fn.Solar) (n : Int)
    (hs : (toM s).valid = true) (hf : n.natAbs + 2 ≤ fuel) (hy : 1 ≤ s.year)
    (hr : 1 ≤ (Model.nextDayYmd s.year s.month s.day n).1) :
    ∃ r, Gen.Fn.calendar_Solar_NextDay fuel s n = .ok r ∧ (toM r).valid = true ∧
      (toM r).jdn = (toM s).jdn + n ∧
      r.hour = s.hour ∧ r.minute = s.minute ∧ r.second = s.second :=
  nextDay_total fuel s n hs hf

/-- The generated `NextDay` never returns an error on a valid receiver with enough fuel. -/
theorem nextDay_ne_error (fuel : Nat) (s : Gen.Fn.Solar) (n : Int) (e : Gen.Fn.Err)
    (hs : (toM s).valid = true) (hf : n.natAbs + 2 ≤ fuel) :
    Gen.Fn.calendar_Solar_NextDay fuel s n ≠ .error e := by
  obtain ⟨r, h, _⟩ := nextDay_total fuel s n hs hf
  rw [h]
  exact nofun

/-- The weekday moves by `n mod 7`. -/
theorem nextDay_week (fuel : Nat) (s r : Gen.Fn.Solar) (n : Int)
    (hs : (toM s).valid = true) (hf : n.natAbs + 2 ≤ fuel)
    (h : Gen.Fn.calendar_Solar_NextDay fuel s n = .ok r) :
    (toM r).week = ((toM s).week + n) % 7 :=
  Model.week_nextDay (toM s) (toM r) n (nextDay_jdn fuel s r n hs hf h).1

/-- `NextDay n` is determined by what it guarantees (day number, time of day, validity); round
trip, additivity and `NextDay 0` below are instances. -/
theorem e2e_nextDay_of_jdn (fuel : Nat) (s r : Gen.Fn.Solar) (n : Int)
    (hs : (toM s).valid = true) (hf : n.natAbs + 2 ≤ fuel) (hr : (toM r).valid = true)
    (hj : (toM r).jdn = (toM s).jdn + n)
    (h1 : r.hour = s.hour) (h2 : r.minute = s.minute) (h3 : r.second = s.second) :
    Gen.Fn.calendar_Solar_NextDay fuel s n = .ok r := by
  rw [solarNextDay_eq fuel s n hs hf, Model.nextDay_eq_some (toM s) (toM r) n hs hr hj h1 h2 h3]
  rfl

theorem e2e_roundtrip (fuel fuel' : Nat) (s r : Gen.Fn.Solar) (n : Int)
    (hs : (toM s).valid = true) (hf : n.natAbs + 2 ≤ fuel) (hf' : n.natAbs + 2 ≤ fuel')
    (h : Gen.Fn.calendar_Solar_NextDay fuel s n = .ok r) :
    Gen.Fn.calendar_Solar_NextDay fuel' r (-n) = .ok s := by
  obtain ⟨hj, hv, a1, a2, a3⟩ := nextDay_jdn fuel s r n hs hf h
  exact e2e_nextDay_of_jdn fuel' r s (-n) hv (by rw [Int.natAbs_neg]; exact hf') hs (by omega)
    a1.symm a2.symm a3.symm

/-- `NextDay n` followed by `NextDay (-n)` returns the original date-time. -/
theorem nextDay_roundtrip (fuel fuel' : Nat) (s r : Gen.Fn.Solar) (n : Int)
    (hs : (toM s).valid = true) (hf : n.natAbs + 2 ≤ fuel) (hf' : n.natAbs + 2 ≤ fuel')
    (hy : 1 ≤ s.year) (h : Gen.Fn.calendar_Solar_NextDay fuel s n = .ok r) (hr : 1 ≤ r.year) :
    Gen.Fn.calendar_Solar_NextDay fuel' r (-n) = .ok s :=
  e2e_roundtrip fuel fuel' s r n hs hf hf' h

/-- The same without assuming that the steps succeed: for every valid receiver both steps are
`.ok` and the second undoes the first. -/
theorem nextDay_roundtrip_total (fuel : Nat) (s : Gen.Fn.Solar) (n : Int)
    (hs : (toM s).valid = true) (hf : n.natAbs + 2 ≤ fuel) :
    ∃ r, Gen.Fn.calendar_Solar_NextDay fuel s n = .ok r ∧
         Gen.Fn.calendar_Solar_NextDay fuel r (-n) = .ok s := by
  obtain ⟨r, e, _⟩ := nextDay_total fuel s n hs hf
  exact ⟨r, e, e2e_roundtrip fuel fuel s r n hs hf hf e⟩

theorem e2e_add (f1 f2 f3 : Nat) (s r t : Gen.Fn.Solar) (a b : Int)
    (hs : (toM s).valid = true) (h1f : a.natAbs + 2 ≤ f1) (h2f : b.natAbs + 2 ≤ f2)
    (h3f : (a + b).natAbs + 2 ≤ f3)
    (h1 : Gen.Fn.calendar_Solar_NextDay f1 s a = .ok r)
    (h2 : Gen.Fn.calendar_Solar_NextDay f2 r b = .ok t) :
    Gen.Fn.calendar_Solar_NextDay f3 s (a + b) = .ok t := by
  obtain ⟨j1, v1, x1, x2, x3⟩ := nextDay_jdn f1 s r a hs h1f h1
  obtain ⟨j2, v2, y1, y2, y3⟩ := nextDay_jdn f2 r t b v1 h2f h2
  exact e2e_nextDay_of_jdn f3 s t (a + b) hs h3f v2 (by omega) (y1.trans x1) (y2.trans x2)
    (y3.trans x3)

/-- Steps compose additively. -/
theorem nextDay_add (f1 f2 f3 : Nat) (s r t : Gen.Fn.Solar) (a b : Int)
    (hs : (toM s).valid = true) (h1f : a.natAbs + 2 ≤ f1) (h2f : b.natAbs + 2 ≤ f2)
    (h3f : (a + b).natAbs + 2 ≤ f3) (hy : 1 ≤ s.year)
    (h1 : Gen.Fn.calendar_Solar_NextDay f1 s a = .ok r) (hr : 1 ≤ r.year)
    (h2 : Gen.Fn.calendar_Solar_NextDay f2 r b = .ok t) (ht : 1 ≤ t.year) :
    Gen.Fn.calendar_Solar_NextDay f3 s (a + b) = .ok t :=
  e2e_add f1 f2 f3 s r t a b hs h1f h2f h3f h1 h2

/-- `NextDay 0` is the identity. -/
theorem nextDay_zero (fuel : Nat) (s : Gen.Fn.Solar) (hs : (toM s).valid = true) (hf : 2 ≤ fuel) :
    Gen.Fn.calendar_Solar_NextDay fuel s 0 = .ok s :=
  e2e_nextDay_of_jdn fuel s s 0 hs (by simpa using hf) hs (by omega) rfl rfl rfl

theorem e2e_subtract_jdn (a b : Gen.Fn.Solar) (ha : (toM a).valid = true)
    (hb : (toM b).valid = true) :
    Gen.Fn.calendar_Solar_Subtract a b = .ok ((toM a).jdn - (toM b).jdn) := by
  rw [solarSubtract_eq_of_valid a b ha hb, Model.subtract_eq_any (toM a) (toM b) ha hb]

theorem subtract_jdn (a b : Gen.Fn.Solar) (ha : (toM a).valid = true) (hb : (toM b).valid = true)
    (hya : 1 ≤ a.year) (hyb : 1 ≤ b.year) :
    Gen.Fn.calendar_Solar_Subtract a b = .ok ((toM a).jdn - (toM b).jdn) :=
  e2e_subtract_jdn a b ha hb

/-- `SubtractMinute` is the difference of the minute stamps. -/
theorem subtractMinute_jdn (a b : Gen.Fn.Solar) (ha : (toM a).valid = true)
    (hb : (toM b).valid = true) (hya : 1 ≤ a.year) (hyb : 1 ≤ b.year) :
    Gen.Fn.calendar_Solar_SubtractMinute a b =
      .ok (((toM a).jdn * 1440 + a.hour * 60 + a.minute) -
           ((toM b).jdn * 1440 + b.hour * 60 + b.minute)) := by
  rw [solarSubtractMinute_eq_of_valid a b ha hb,
    Model.subtractMinute_eq_any (toM a) (toM b) ha hb]
  rfl

/-- `Subtract` undoes `NextDay`: the date reached by `NextDay n` is `n` days after the start. -/
theorem subtract_nextDay (fuel : Nat) (s r : Gen.Fn.Solar) (n : Int)
    (hs : (toM s).valid = true) (hf : n.natAbs + 2 ≤ fuel) (hy : 1 ≤ s.year)
    (h : Gen.Fn.calendar_Solar_NextDay fuel s n = .ok r) (hr : 1 ≤ r.year) :
    Gen.Fn.calendar_Solar_Subtract r s = .ok n := by
  obtain ⟨hj, hv, _⟩ := nextDay_jdn fuel s r n hs hf h
  rw [e2e_subtract_jdn r s hv hs, hj]
  congr 1
  omega

theorem e2e_isBefore_stamp (a b : Gen.Fn.Solar) (ha : (toM a).valid = true)
    (hb : (toM b).valid = true) :
    Gen.Fn.calendar_Solar_IsBefore a b = .ok (decide ((toM a).stamp < (toM b).stamp)) := by
  rw [solarIsBefore_eq]
  exact congrArg Except.ok (Bool.eq_iff_iff.2
    ((Model.isBefore_iff_all (toM a) (toM b) ha hb).trans decide_eq_true_iff.symm))

theorem isBefore_stamp (a b : Gen.Fn.Solar) (ha : (toM a).valid = true) (hb : (toM b).valid = true)
    (hya : 1 ≤ a.year) (hyb : 1 ≤ b.year) :
    Gen.Fn.calendar_Solar_IsBefore a b = .ok (decide ((toM a).stamp < (toM b).stamp)) :=
  e2e_isBefore_stamp a b ha hb

theorem isAfter_stamp (a b : Gen.Fn.Solar) (ha : (toM a).valid = true) (hb : (toM b).valid = true)
    (hya : 1 ≤ a.year) (hyb : 1 ≤ b.year) :
    Gen.Fn.calendar_Solar_IsAfter a b = .ok (decide ((toM b).stamp < (toM a).stamp)) :=
  (solarIsAfter_swap a b).trans (e2e_isBefore_stamp b a hb ha)

/-- `a.IsAfter(b)` is `b.IsBefore(a)`: `solarIsAfter_swap`, which has no hypotheses. -/
theorem isAfter_swap (a b : Gen.Fn.Solar) (ha : (toM a).valid = true) (hb : (toM b).valid = true)
    (hya : 1 ≤ a.year) (hyb : 1 ≤ b.year) :
    Gen.Fn.calendar_Solar_IsAfter a b = Gen.Fn.calendar_Solar_IsBefore b a :=
  solarIsAfter_swap a b

theorem e2e_stamp_inj (a b : Gen.Fn.Solar) (ha : (toM a).valid = true) (hb : (toM b).valid = true)
    (h : (toM a).stamp = (toM b).stamp) : a = b := by
  have b1 := Model.hms_bounds (toM a) ha
  have b2 := Model.hms_bounds (toM b) hb
  have hj : (toM a).jdn = (toM b).jdn ∧ (toM a).secOfDay = (toM b).secOfDay := by
    unfold Model.Solar.stamp Model.Solar.secOfDay at h
    unfold Model.Solar.secOfDay
    omega
  obtain ⟨c1, c2, c3⟩ := Model.hms_unique (toM a) (toM b) ha hb hj.2
  exact toM_inj (Model.solar_eq_of_jdn (toM a) (toM b) ha hb hj.1 c1 c2 c3)

/-- Trichotomy on the generated code: both comparisons succeed, and exactly one of
"before", "after", "all fields equal" holds. -/
theorem order_trichotomy (a b : Gen.Fn.Solar) (ha : (toM a).valid = true)
    (hb : (toM b).valid = true) (hya : 1 ≤ a.year) (hyb : 1 ≤ b.year) :
    ∃ bf af : Bool, Gen.Fn.calendar_Solar_IsBefore a b = .ok bf ∧
      Gen.Fn.calendar_Solar_IsAfter a b = .ok af ∧
      ((bf = true ∧ af = false ∧ a ≠ b) ∨ (bf = false ∧ af = true ∧ a ≠ b) ∨
       (bf = false ∧ af = false ∧ a = b)) := by
  refine ⟨_, _, e2e_isBefore_stamp a b ha hb, isAfter_stamp a b ha hb hya hyb, ?_⟩
  rcases Int.lt_trichotomy (toM a).stamp (toM b).stamp with h | h | h
  · left
    refine ⟨decide_eq_true h, decide_eq_false (by omega), ?_⟩
    intro e; subst e; omega
  · right; right
    exact ⟨decide_eq_false (by omega), decide_eq_false (by omega), e2e_stamp_inj a b ha hb h⟩
  · right; left
    refine ⟨decide_eq_false (by omega), decide_eq_true h, ?_⟩
    intro e; subst e; omega

/-- `IsBefore` is irreflexive and transitive on valid date-times (strict order). -/
theorem isBefore_irrefl (a : Gen.Fn.Solar) (ha : (toM a).valid = true) (hya : 1 ≤ a.year) :
    Gen.Fn.calendar_Solar_IsBefore a a = .ok false := by
  rw [e2e_isBefore_stamp a a ha ha]
  congr 1
  exact decide_eq_false (by omega)

theorem isBefore_trans (a b c : Gen.Fn.Solar) (ha : (toM a).valid = true)
    (hb : (toM b).valid = true) (hc : (toM c).valid = true)
    (hya : 1 ≤ a.year) (hyb : 1 ≤ b.year) (hyc : 1 ≤ c.year)
    (h1 : Gen.Fn.calendar_Solar_IsBefore a b = .ok true)
    (h2 : Gen.Fn.calendar_Solar_IsBefore b c = .ok true) :
    Gen.Fn.calendar_Solar_IsBefore a c = .ok true := by
  rw [e2e_isBefore_stamp a b ha hb] at h1
  rw [e2e_isBefore_stamp b c hb hc] at h2
  rw [e2e_isBefore_stamp a c ha hc]
  exact congrArg Except.ok (decide_eq_true (Int.lt_trans (of_decide_eq_true (Except.ok.inj h1))
    (of_decide_eq_true (Except.ok.inj h2))))


end FnE2E
