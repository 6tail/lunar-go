/-
Proofs.FnUnits — SolarYear / SolarHalfYear / SolarSeason: generated code = model.
-/
import Proofs.FnSolarMonth

namespace FnEq

@[simp] theorem newSolarYearFromYear_eq (y : Int) :
    Gen.Fn.calendar_NewSolarYearFromYear y = .ok ⟨y⟩ := rfl
@[simp] theorem solarYearGetYear_eq (sy : Gen.Fn.SolarYear) :
    Gen.Fn.calendar_SolarYear_GetYear sy = .ok sy.year := rfl
theorem solarYearNext_eq (sy : Gen.Fn.SolarYear) (years : Int) :
    Gen.Fn.calendar_SolarYear_Next sy years = .ok ⟨sy.year + years⟩ := rfl

@[simp] theorem newSolarHalfYearFromYm_eq (y m : Int) :
    Gen.Fn.calendar_NewSolarHalfYearFromYm y m = .ok ⟨y, m⟩ := rfl
@[simp] theorem newSolarSeasonFromYm_eq (y m : Int) :
    Gen.Fn.calendar_NewSolarSeasonFromYm y m = .ok ⟨y, m⟩ := rfl

/-- `SolarHalfYear.GetIndex` = ⌈month / 6⌉ -/
theorem solarHalfYearGetIndex_eq (hy : Gen.Fn.SolarHalfYear) :
    Gen.Fn.calendar_SolarHalfYear_GetIndex hy = .ok (Model.halfYearIndex hy.month) := by
  simp only [Gen.Fn.calendar_SolarHalfYear_GetIndex, Model.halfYearIndex, c1_pure]
  congr 1
  omega

/-- `SolarSeason.GetIndex` = ⌈month / 3⌉ -/
theorem solarSeasonGetIndex_eq (ss : Gen.Fn.SolarSeason) :
    Gen.Fn.calendar_SolarSeason_GetIndex ss = .ok (Model.seasonIndex ss.month) := by
  simp only [Gen.Fn.calendar_SolarSeason_GetIndex, Model.seasonIndex, c1_pure]
  congr 1
  omega

theorem solarHalfYearNext_eq (hy : Gen.Fn.SolarHalfYear) (n : Int) :
    Gen.Fn.calendar_SolarHalfYear_Next hy n =
      .ok ⟨(Model.halfYearNext hy.year hy.month n).1, (Model.halfYearNext hy.year hy.month n).2⟩ := by
  simp only [Gen.Fn.calendar_SolarHalfYear_Next, newSolarMonthFromYm_eq, c1_ok_bind,
    solarMonthNext_eq, solarMonthGetYear_eq, solarMonthGetMonth_eq, newSolarHalfYearFromYm_eq,
    Model.halfYearNext]

theorem solarSeasonNext_eq (ss : Gen.Fn.SolarSeason) (n : Int) :
    Gen.Fn.calendar_SolarSeason_Next ss n =
      .ok ⟨(Model.seasonNext ss.year ss.month n).1, (Model.seasonNext ss.year ss.month n).2⟩ := by
  simp only [Gen.Fn.calendar_SolarSeason_Next, newSolarMonthFromYm_eq, c1_ok_bind,
    solarMonthNext_eq, solarMonthGetYear_eq, solarMonthGetMonth_eq, newSolarSeasonFromYm_eq,
    Model.seasonNext]


end FnEq
