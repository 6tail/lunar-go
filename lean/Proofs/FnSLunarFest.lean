/-
Proofs.FnSLunarFest — `Lunar.GetFestivals` of the string-mode generated code (atom `a1` = `lunar.Next(1)`): the
table festival of "month-day", then 除夕 under the New Year's Eve rule; equality with the model. Helpers carry
the prefix `sf_`.
-/
import Proofs.FnSFestBase
import Model.Season

namespace FnSEq
open Gen.Fn (Err)
open Gen.Tables

theorem sf_LF_keys : LunarUtil.«FESTIVAL».map Prod.fst = LunarUtil.«FESTIVAL_ikeys».map sf_enc := by decide
theorem sf_LF_len : LunarUtil.«FESTIVAL_ikeys».all (fun a => a.length == 2) = true := by decide
theorem sf_LF_noChuXi : LunarUtil.«FESTIVAL».all (fun p => p.2 != "除夕") = true := by decide

/-- the New Year's Eve condition of the Go code -/
def sf_chuXi (a1 l : Gen.FnS.Lunar) : Prop :=
  (l.month = 12 ∨ l.month = -12) ∧ l.day ≥ 29 ∧ l.year ≠ a1.year

instance (a1 l : Gen.FnS.Lunar) : Decidable (sf_chuXi a1 l) := by unfold sf_chuXi; infer_instance

/-- exact shape, all inputs: the table entry of "month-day" (if any), then 除夕 (if the condition holds) -/
theorem lunarGetFestivals_shape (a1 l : Gen.FnS.Lunar) :
    Gen.FnS.calendar_Lunar_GetFestivals a1 l = .ok (
      (if Gen.FnS.mhas LunarUtil.«FESTIVAL» (Gen.FnS.fmtD l.month ++ "-" ++ Gen.FnS.fmtD l.day) = true
        then [Gen.FnS.mlookupS LunarUtil.«FESTIVAL» (Gen.FnS.fmtD l.month ++ "-" ++ Gen.FnS.fmtD l.day)] else []) ++
      (if (l.month = 12 ∨ l.month = -12) ∧ l.day ≥ 29 ∧ l.year ≠ a1.year then ["除夕"] else [])) := by
  unfold Gen.FnS.calendar_Lunar_GetFestivals
  simp only [lunarGetYear_eq, sb_bind_ok]
  generalize Gen.FnS.mhas LunarUtil.«FESTIVAL» _ = b
  generalize Gen.FnS.mlookupS LunarUtil.«FESTIVAL» _ = v
  have e12 : (-l.month = 12) = (l.month = -12) := propext ⟨fun h => by omega, fun h => by omega⟩
  -- enumerate all truth values of the six tests; `omega` removes the combinations that cannot occur
  by_cases hy : l.year = a1.year <;> by_cases hd : l.day ≥ 29 <;> by_cases hn : l.month < 0 <;>
    by_cases h12 : l.month = 12 <;> by_cases hm12 : l.month = -12 <;> cases b <;>
    first
      | omega
      | simp [hy, hd, hn, h12, hm12, e12, pure, Except.pure]

/-- no panic, no fuel error: for all inputs the result is `.ok` -/
theorem lunarGetFestivals_ok (a1 l : Gen.FnS.Lunar) :
    ∃ r, Gen.FnS.calendar_Lunar_GetFestivals a1 l = .ok r :=
  ⟨_, lunarGetFestivals_shape a1 l⟩

theorem sf_LF_base_noChuXi (k : String) :
    "除夕" ∉ (if Gen.FnS.mhas LunarUtil.«FESTIVAL» k = true then [Gen.FnS.mlookupS LunarUtil.«FESTIVAL» k] else []) := by
  rw [sf_optList]
  cases h : Model.lookupS LunarUtil.«FESTIVAL» k with
  | none => simp
  | some f =>
    obtain ⟨p, hp, rfl⟩ := sf_lookupS_mem _ _ _ h
    have := List.all_eq_true.mp sf_LF_noChuXi p hp
    simp only [bne_iff_ne, ne_eq] at this
    exact fun e => this (List.mem_singleton.1 e).symm

/-- the New Year's Eve rule, all inputs: 除夕 is reported exactly when the month is the 12th (leap or
not), the day is ≥ 29 and the next day lies in another lunar year -/
theorem lunarGetFestivals_chuXi_iff (a1 l : Gen.FnS.Lunar) (r : List String)
    (h : Gen.FnS.calendar_Lunar_GetFestivals a1 l = .ok r) :
    "除夕" ∈ r ↔ ((l.month = 12 ∨ l.month = -12) ∧ l.day ≥ 29 ∧ l.year ≠ a1.year) := by
  rw [lunarGetFestivals_shape] at h
  injection h with h
  subst h
  rw [List.mem_append, or_iff_right (sf_LF_base_noChuXi _)]
  split <;> simp [*]

/-- 除夕, when present, is the LAST element and occurs once -/
theorem lunarGetFestivals_chuXi_last (a1 l : Gen.FnS.Lunar)
    (c : (l.month = 12 ∨ l.month = -12) ∧ l.day ≥ 29 ∧ l.year ≠ a1.year) :
    ∃ base, Gen.FnS.calendar_Lunar_GetFestivals a1 l = .ok (base ++ ["除夕"]) ∧ "除夕" ∉ base := by
  refine ⟨_, ?_, sf_LF_base_noChuXi (Gen.FnS.fmtD l.month ++ "-" ++ Gen.FnS.fmtD l.day)⟩
  rw [lunarGetFestivals_shape, if_pos c]

theorem sf_LF_lookup (m d : Int) :
    Model.lookupI LunarUtil.«FESTIVAL_ikeys» LunarUtil.«FESTIVAL» [m, d]
      = Model.lookupS LunarUtil.«FESTIVAL» (Gen.FnS.fmtD m ++ "-" ++ Gen.FnS.fmtD d) :=
  sf_lookupI_enc _ _ sf_LF_keys [m, d] sf_LF_len

theorem sf_abs12 (m : Int) : (if m < 0 then -m else m) = 12 ↔ (m = 12 ∨ m = -12) := by
  by_cases h : m < 0 <;> simp only [h, if_true, if_false] <;> omega

/-- `Model.Lunar.festivals` restated: Go map read on the rendered key, 12th-month test as a disjunction -/
theorem sf_festivals_model (A : Model.Astro) (L : Model.Lunar) :
    L.festivals A =
      (if (L.month = 12 ∨ L.month = -12) ∧ L.day ≥ 29 then
        match L.next A 1 with
        | none => none
        | some nx => some ((match Model.lookupS LunarUtil.«FESTIVAL» (Gen.FnS.fmtD L.month ++ "-" ++ Gen.FnS.fmtD L.day) with
            | some f => [f] | none => []) ++ (if L.year ≠ nx.year then ["除夕"] else []))
      else some (match Model.lookupS LunarUtil.«FESTIVAL» (Gen.FnS.fmtD L.month ++ "-" ++ Gen.FnS.fmtD L.day) with
            | some f => [f] | none => [])) := by
  unfold Model.Lunar.festivals
  simp only [sf_LF_lookup, sf_abs12]
  split
  · cases L.next A 1 with
    | none => rfl
    | some nx => by_cases hy : L.year ≠ nx.year <;> simp [hy] <;> rfl
  · rfl

/-- equality with the model. The atom `lunar.Next(1)` is evaluated by the Go code only when
|month| = 12 and day ≥ 29 (short-circuit `&&`); exactly there it is bound to the model's next day `nx`
(only its lunar year is used). -/
theorem lunarGetFestivals_eq (A : Model.Astro) (a1 l : Gen.FnS.Lunar) (terms : List Model.Solar)
    (ha1 : (l.month = 12 ∨ l.month = -12) → l.day ≥ 29 →
      ∃ nx, (lunarToM l terms).next A 1 = some nx ∧ a1.year = nx.year) :
    Gen.FnS.calendar_Lunar_GetFestivals a1 l
      = (match Model.Lunar.festivals A (lunarToM l terms) with | some r => .ok r | none => .error .panic) := by
  rw [lunarGetFestivals_shape, sf_optList, sf_festivals_model]
  by_cases c : (l.month = 12 ∨ l.month = -12) ∧ l.day ≥ 29
  · have c' : ((lunarToM l terms).month = 12 ∨ (lunarToM l terms).month = -12) ∧ (lunarToM l terms).day ≥ 29 := c
    obtain ⟨nx, hnx, hy⟩ := ha1 c.1 c.2
    rw [if_pos c']
    simp only [hnx]
    have e : ((l.month = 12 ∨ l.month = -12) ∧ l.day ≥ 29 ∧ l.year ≠ a1.year) ↔ (lunarToM l terms).year ≠ nx.year := by
      rw [hy]; exact ⟨fun h => h.2.2, fun h => ⟨c.1, c.2, h⟩⟩
    simp only [e]; rfl
  · have c' : ¬ (((lunarToM l terms).month = 12 ∨ (lunarToM l terms).month = -12) ∧ (lunarToM l terms).day ≥ 29) := c
    have h1 : ¬ ((l.month = 12 ∨ l.month = -12) ∧ l.day ≥ 29 ∧ l.year ≠ a1.year) := fun h => c ⟨h.1, h.2.1⟩
    rw [if_neg c', if_neg h1, List.append_nil]; rfl

/-- outside the 12th month's last days the atom is irrelevant and the model needs no oracle fact -/
theorem lunarGetFestivals_eq_of_not_last (A : Model.Astro) (a1 l : Gen.FnS.Lunar) (terms : List Model.Solar)
    (c : ¬ ((l.month = 12 ∨ l.month = -12) ∧ l.day ≥ 29)) :
    Gen.FnS.calendar_Lunar_GetFestivals a1 l
      = (match Model.Lunar.festivals A (lunarToM l terms) with | some r => .ok r | none => .error .panic) :=
  lunarGetFestivals_eq A a1 l terms (fun h1 h2 => absurd ⟨h1, h2⟩ c)

/-- where Go would panic evaluating the atom (no next day / no lunar date for it), the model says `none` -/
theorem lunarGetFestivals_model_none (A : Model.Astro) (l : Gen.FnS.Lunar) (terms : List Model.Solar)
    (c : (l.month = 12 ∨ l.month = -12) ∧ l.day ≥ 29) (hn : (lunarToM l terms).next A 1 = none) :
    Model.Lunar.festivals A (lunarToM l terms) = none := by
  have c' : ((lunarToM l terms).month = 12 ∨ (lunarToM l terms).month = -12) ∧ (lunarToM l terms).day ≥ 29 := c
  rw [sf_festivals_model, if_pos c', hn]

/-- the model never fails otherwise -/
theorem lunarGetFestivals_model_some (A : Model.Astro) (L : Model.Lunar)
    (h : (L.month = 12 ∨ L.month = -12) → L.day ≥ 29 → ∃ nx, L.next A 1 = some nx) :
    ∃ r, L.festivals A = some r := by
  rw [sf_festivals_model]
  by_cases c : (L.month = 12 ∨ L.month = -12) ∧ L.day ≥ 29
  · obtain ⟨nx, hnx⟩ := h c.1 c.2
    rw [if_pos c, hnx]; exact ⟨_, rfl⟩
  · rw [if_neg c]; exact ⟨_, rfl⟩

/-- atom instantiated: with `a1` := the model's next day the generated code IS the model -/
theorem lunarGetFestivals_eq_next (A : Model.Astro) (l : Gen.FnS.Lunar) (terms : List Model.Solar) (nx : Model.Lunar)
    (hnx : (lunarToM l terms).next A 1 = some nx) :
    Gen.FnS.calendar_Lunar_GetFestivals (lunarOfM nx) l
      = (match Model.Lunar.festivals A (lunarToM l terms) with | some r => .ok r | none => .error .panic) :=
  lunarGetFestivals_eq A (lunarOfM nx) l terms (fun _ _ => ⟨nx, hnx, rfl⟩)

end FnSEq
