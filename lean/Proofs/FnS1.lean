/-
FnS1 — string-mode generated accessors of `Gen.FnS.Lunar` by STEM and by BRANCH of the day and of the
hour (positions of the gods, Peng Zu, clash / evil direction), the animals of the four pillars and
the year Tai Sui position, each tied to the model function (`Model.Almanac`) of its defining index
fields.  Guards are exactly the index ranges under which the Go table read does not panic; each
`_panic` companion states the behaviour outside.  Tables stay opaque (only their lengths are used).
Helpers special to this file carry the prefix `s1_`; the facts about an index that FnS3 uses again
for `LunarTime` (`chongShengXiao_read`, `chongDesc_read`) do not.
-/
import Proofs.FnSBase
namespace FnSEq
open Gen.Fn (Err)
open Gen.Tables

/-! The clash animal, `for i, v := range T { if v == x { return U[i] } }; return ""`, and the clash description as facts about indices. -/

/-- the loop of the three `…ChongShengXiao` accessors, tables and needle abstracted -/
def s1_loop (T U : List String) (n : Nat) (x : String) : Except Err String := do
  for k2 in [0:n] do
    let i : Int := (k2 : Int)
    let v ← Gen.FnS.sidx T (k2 : Int)
    if decide (v = x) then
      let t3 ← Gen.FnS.sidx U i
      return t3
  return ""

theorem s1_loop_eq (T U : List String) (n : Nat) (x : String) (hT : T.length = n) (hU : U.length = n) :
    s1_loop T U n x = .ok (match T.findIdx? (· == x) with
      | some i => U.getD i ""
      | none => "") := by
  unfold s1_loop
  rw [forIn_range_search T n hT x _ (fun i => (some (U.getD i ""), ())) _ fun k hk => by
    simp only [sidx_nat T k hk, sidx_eq_getD U k (Int.natCast_nonneg k) (by omega), Int.toNat_natCast, sb_bind_ok,
      decide_eq_true_eq]]
  cases T.findIdx? (· == x) <;> rfl

theorem chongShengXiao_read (z : Int) (z0 : 0 ≤ z) (z1 : z < 12) :
    (Gen.FnS.sidx LunarUtil.«CHONG» z >>= fun c => s1_loop LunarUtil.«ZHI» LunarUtil.«SHENG_XIAO» 13 c)
      = .ok (Model.chongShengXiao z) := by
  rw [sidx_in _ 12 rfl z z0 z1, sb_bind_ok, s1_loop_eq _ _ 13 _ rfl rfl]; rfl

/-- clash description "(" + ChongGan + Chong + ")" + ChongShengXiao: a stem AND a branch attribute -/
theorem chongDesc_read (g z : Int) (g0 : 0 ≤ g) (g1 : g < 10) (z0 : 0 ≤ z) (z1 : z < 12) :
    (do let t1 ← Gen.FnS.sidx LunarUtil.«CHONG_GAN» g
        let t2 ← Gen.FnS.sidx LunarUtil.«CHONG» z
        let t3 ← Gen.FnS.sidx LunarUtil.«CHONG» z >>= fun c => s1_loop LunarUtil.«ZHI» LunarUtil.«SHENG_XIAO» 13 c
        pure (((("(" ++ t1) ++ t2) ++ ")") ++ t3)) = Except.ok (Model.chongDesc g z) := by
  rw [chongShengXiao_read z z0 z1, sidx_in _ 10 rfl g g0 g1, sidx_in _ 12 rfl z z0 z1]; rfl

theorem chongDesc_panic (g z : Int) (h : g < 0 ∨ 10 ≤ g ∨ z < 0 ∨ 12 ≤ z) (k : String → String → Except Err String) :
    (do let t1 ← Gen.FnS.sidx LunarUtil.«CHONG_GAN» g
        let t2 ← Gen.FnS.sidx LunarUtil.«CHONG» z
        k t1 t2) = .error .panic := by
  by_cases hg : g < 0 ∨ 10 ≤ g
  · rw [sidx_out _ 10 rfl g hg]; rfl
  · rw [sidx_in _ 10 rfl g (by omega) (by omega), sidx_out _ 12 rfl z (by omega)]; rfl

section Stem
variable (l : Gen.FnS.Lunar)

theorem lunarGetDayPositionXi_eq (h0 : -1 ≤ l.dayGanIndex) (h1 : l.dayGanIndex < 10) :
    Gen.FnS.calendar_Lunar_GetDayPositionXi l = .ok (Model.positionXi l.dayGanIndex) :=
  sidx_succ _ 10 rfl _ h0 h1
theorem lunarGetDayPositionXi_panic (h : l.dayGanIndex < -1 ∨ 10 ≤ l.dayGanIndex) :
    Gen.FnS.calendar_Lunar_GetDayPositionXi l = .error .panic :=
  sidx_succ_out _ 10 rfl _ h
theorem lunarGetDayPositionXiDesc_eq (h0 : -1 ≤ l.dayGanIndex) (h1 : l.dayGanIndex < 10) :
    Gen.FnS.calendar_Lunar_GetDayPositionXiDesc l = .ok (Model.positionDesc (Model.positionXi l.dayGanIndex)) :=
  bind_mlookupS (lunarGetDayPositionXi_eq l h0 h1) _
theorem lunarGetDayPositionXiDesc_panic (h : l.dayGanIndex < -1 ∨ 10 ≤ l.dayGanIndex) :
    Gen.FnS.calendar_Lunar_GetDayPositionXiDesc l = .error .panic :=
  bind_panic (lunarGetDayPositionXi_panic l h) _
theorem lunarGetDayPositionYangGui_eq (h0 : -1 ≤ l.dayGanIndex) (h1 : l.dayGanIndex < 10) :
    Gen.FnS.calendar_Lunar_GetDayPositionYangGui l = .ok (Model.positionYangGui l.dayGanIndex) :=
  sidx_succ _ 10 rfl _ h0 h1
theorem lunarGetDayPositionYangGui_panic (h : l.dayGanIndex < -1 ∨ 10 ≤ l.dayGanIndex) :
    Gen.FnS.calendar_Lunar_GetDayPositionYangGui l = .error .panic :=
  sidx_succ_out _ 10 rfl _ h
theorem lunarGetDayPositionYangGuiDesc_eq (h0 : -1 ≤ l.dayGanIndex) (h1 : l.dayGanIndex < 10) :
    Gen.FnS.calendar_Lunar_GetDayPositionYangGuiDesc l = .ok (Model.positionDesc (Model.positionYangGui l.dayGanIndex)) :=
  bind_mlookupS (lunarGetDayPositionYangGui_eq l h0 h1) _
theorem lunarGetDayPositionYangGuiDesc_panic (h : l.dayGanIndex < -1 ∨ 10 ≤ l.dayGanIndex) :
    Gen.FnS.calendar_Lunar_GetDayPositionYangGuiDesc l = .error .panic :=
  bind_panic (lunarGetDayPositionYangGui_panic l h) _
theorem lunarGetDayPositionYinGui_eq (h0 : -1 ≤ l.dayGanIndex) (h1 : l.dayGanIndex < 10) :
    Gen.FnS.calendar_Lunar_GetDayPositionYinGui l = .ok (Model.positionYinGui l.dayGanIndex) :=
  sidx_succ _ 10 rfl _ h0 h1
theorem lunarGetDayPositionYinGui_panic (h : l.dayGanIndex < -1 ∨ 10 ≤ l.dayGanIndex) :
    Gen.FnS.calendar_Lunar_GetDayPositionYinGui l = .error .panic :=
  sidx_succ_out _ 10 rfl _ h
theorem lunarGetDayPositionYinGuiDesc_eq (h0 : -1 ≤ l.dayGanIndex) (h1 : l.dayGanIndex < 10) :
    Gen.FnS.calendar_Lunar_GetDayPositionYinGuiDesc l = .ok (Model.positionDesc (Model.positionYinGui l.dayGanIndex)) :=
  bind_mlookupS (lunarGetDayPositionYinGui_eq l h0 h1) _
theorem lunarGetDayPositionYinGuiDesc_panic (h : l.dayGanIndex < -1 ∨ 10 ≤ l.dayGanIndex) :
    Gen.FnS.calendar_Lunar_GetDayPositionYinGuiDesc l = .error .panic :=
  bind_panic (lunarGetDayPositionYinGui_panic l h) _
theorem lunarGetDayPositionCai_eq (h0 : -1 ≤ l.dayGanIndex) (h1 : l.dayGanIndex < 10) :
    Gen.FnS.calendar_Lunar_GetDayPositionCai l = .ok (Model.positionCai l.dayGanIndex) :=
  sidx_succ _ 10 rfl _ h0 h1
theorem lunarGetDayPositionCai_panic (h : l.dayGanIndex < -1 ∨ 10 ≤ l.dayGanIndex) :
    Gen.FnS.calendar_Lunar_GetDayPositionCai l = .error .panic :=
  sidx_succ_out _ 10 rfl _ h
theorem lunarGetDayPositionCaiDesc_eq (h0 : -1 ≤ l.dayGanIndex) (h1 : l.dayGanIndex < 10) :
    Gen.FnS.calendar_Lunar_GetDayPositionCaiDesc l = .ok (Model.positionDesc (Model.positionCai l.dayGanIndex)) :=
  bind_mlookupS (lunarGetDayPositionCai_eq l h0 h1) _
theorem lunarGetDayPositionCaiDesc_panic (h : l.dayGanIndex < -1 ∨ 10 ≤ l.dayGanIndex) :
    Gen.FnS.calendar_Lunar_GetDayPositionCaiDesc l = .error .panic :=
  bind_panic (lunarGetDayPositionCai_panic l h) _
theorem lunarGetDayChongGan_eq (h0 : 0 ≤ l.dayGanIndex) (h1 : l.dayGanIndex < 10) :
    Gen.FnS.calendar_Lunar_GetDayChongGan l = .ok (Model.chongGan l.dayGanIndex) :=
  sidx_in _ 10 rfl _ h0 h1
theorem lunarGetDayChongGan_panic (h : l.dayGanIndex < 0 ∨ 10 ≤ l.dayGanIndex) :
    Gen.FnS.calendar_Lunar_GetDayChongGan l = .error .panic :=
  sidx_out _ 10 rfl _ h
theorem lunarGetDayChongGanTie_eq (h0 : 0 ≤ l.dayGanIndex) (h1 : l.dayGanIndex < 10) :
    Gen.FnS.calendar_Lunar_GetDayChongGanTie l = .ok (Model.chongGanTie l.dayGanIndex) :=
  sidx_in _ 10 rfl _ h0 h1
theorem lunarGetDayChongGanTie_panic (h : l.dayGanIndex < 0 ∨ 10 ≤ l.dayGanIndex) :
    Gen.FnS.calendar_Lunar_GetDayChongGanTie l = .error .panic :=
  sidx_out _ 10 rfl _ h
theorem lunarGetTimePositionXi_eq (h0 : -1 ≤ l.timeGanIndex) (h1 : l.timeGanIndex < 10) :
    Gen.FnS.calendar_Lunar_GetTimePositionXi l = .ok (Model.positionXi l.timeGanIndex) :=
  sidx_succ _ 10 rfl _ h0 h1
theorem lunarGetTimePositionXi_panic (h : l.timeGanIndex < -1 ∨ 10 ≤ l.timeGanIndex) :
    Gen.FnS.calendar_Lunar_GetTimePositionXi l = .error .panic :=
  sidx_succ_out _ 10 rfl _ h
theorem lunarGetTimePositionXiDesc_eq (h0 : -1 ≤ l.timeGanIndex) (h1 : l.timeGanIndex < 10) :
    Gen.FnS.calendar_Lunar_GetTimePositionXiDesc l = .ok (Model.positionDesc (Model.positionXi l.timeGanIndex)) :=
  bind_mlookupS (lunarGetTimePositionXi_eq l h0 h1) _
theorem lunarGetTimePositionXiDesc_panic (h : l.timeGanIndex < -1 ∨ 10 ≤ l.timeGanIndex) :
    Gen.FnS.calendar_Lunar_GetTimePositionXiDesc l = .error .panic :=
  bind_panic (lunarGetTimePositionXi_panic l h) _
theorem lunarGetTimePositionYangGui_eq (h0 : -1 ≤ l.timeGanIndex) (h1 : l.timeGanIndex < 10) :
    Gen.FnS.calendar_Lunar_GetTimePositionYangGui l = .ok (Model.positionYangGui l.timeGanIndex) :=
  sidx_succ _ 10 rfl _ h0 h1
theorem lunarGetTimePositionYangGui_panic (h : l.timeGanIndex < -1 ∨ 10 ≤ l.timeGanIndex) :
    Gen.FnS.calendar_Lunar_GetTimePositionYangGui l = .error .panic :=
  sidx_succ_out _ 10 rfl _ h
theorem lunarGetTimePositionYangGuiDesc_eq (h0 : -1 ≤ l.timeGanIndex) (h1 : l.timeGanIndex < 10) :
    Gen.FnS.calendar_Lunar_GetTimePositionYangGuiDesc l = .ok (Model.positionDesc (Model.positionYangGui l.timeGanIndex)) :=
  bind_mlookupS (lunarGetTimePositionYangGui_eq l h0 h1) _
theorem lunarGetTimePositionYangGuiDesc_panic (h : l.timeGanIndex < -1 ∨ 10 ≤ l.timeGanIndex) :
    Gen.FnS.calendar_Lunar_GetTimePositionYangGuiDesc l = .error .panic :=
  bind_panic (lunarGetTimePositionYangGui_panic l h) _
theorem lunarGetTimePositionYinGui_eq (h0 : -1 ≤ l.timeGanIndex) (h1 : l.timeGanIndex < 10) :
    Gen.FnS.calendar_Lunar_GetTimePositionYinGui l = .ok (Model.positionYinGui l.timeGanIndex) :=
  sidx_succ _ 10 rfl _ h0 h1
theorem lunarGetTimePositionYinGui_panic (h : l.timeGanIndex < -1 ∨ 10 ≤ l.timeGanIndex) :
    Gen.FnS.calendar_Lunar_GetTimePositionYinGui l = .error .panic :=
  sidx_succ_out _ 10 rfl _ h
theorem lunarGetTimePositionYinGuiDesc_eq (h0 : -1 ≤ l.timeGanIndex) (h1 : l.timeGanIndex < 10) :
    Gen.FnS.calendar_Lunar_GetTimePositionYinGuiDesc l = .ok (Model.positionDesc (Model.positionYinGui l.timeGanIndex)) :=
  bind_mlookupS (lunarGetTimePositionYinGui_eq l h0 h1) _
theorem lunarGetTimePositionYinGuiDesc_panic (h : l.timeGanIndex < -1 ∨ 10 ≤ l.timeGanIndex) :
    Gen.FnS.calendar_Lunar_GetTimePositionYinGuiDesc l = .error .panic :=
  bind_panic (lunarGetTimePositionYinGui_panic l h) _
theorem lunarGetTimePositionCai_eq (h0 : -1 ≤ l.timeGanIndex) (h1 : l.timeGanIndex < 10) :
    Gen.FnS.calendar_Lunar_GetTimePositionCai l = .ok (Model.positionCai l.timeGanIndex) :=
  sidx_succ _ 10 rfl _ h0 h1
theorem lunarGetTimePositionCai_panic (h : l.timeGanIndex < -1 ∨ 10 ≤ l.timeGanIndex) :
    Gen.FnS.calendar_Lunar_GetTimePositionCai l = .error .panic :=
  sidx_succ_out _ 10 rfl _ h
theorem lunarGetTimePositionCaiDesc_eq (h0 : -1 ≤ l.timeGanIndex) (h1 : l.timeGanIndex < 10) :
    Gen.FnS.calendar_Lunar_GetTimePositionCaiDesc l = .ok (Model.positionDesc (Model.positionCai l.timeGanIndex)) :=
  bind_mlookupS (lunarGetTimePositionCai_eq l h0 h1) _
theorem lunarGetTimePositionCaiDesc_panic (h : l.timeGanIndex < -1 ∨ 10 ≤ l.timeGanIndex) :
    Gen.FnS.calendar_Lunar_GetTimePositionCaiDesc l = .error .panic :=
  bind_panic (lunarGetTimePositionCai_panic l h) _
theorem lunarGetTimeChongGan_eq (h0 : 0 ≤ l.timeGanIndex) (h1 : l.timeGanIndex < 10) :
    Gen.FnS.calendar_Lunar_GetTimeChongGan l = .ok (Model.chongGan l.timeGanIndex) :=
  sidx_in _ 10 rfl _ h0 h1
theorem lunarGetTimeChongGan_panic (h : l.timeGanIndex < 0 ∨ 10 ≤ l.timeGanIndex) :
    Gen.FnS.calendar_Lunar_GetTimeChongGan l = .error .panic :=
  sidx_out _ 10 rfl _ h
theorem lunarGetTimeChongGanTie_eq (h0 : 0 ≤ l.timeGanIndex) (h1 : l.timeGanIndex < 10) :
    Gen.FnS.calendar_Lunar_GetTimeChongGanTie l = .ok (Model.chongGanTie l.timeGanIndex) :=
  sidx_in _ 10 rfl _ h0 h1
theorem lunarGetTimeChongGanTie_panic (h : l.timeGanIndex < 0 ∨ 10 ≤ l.timeGanIndex) :
    Gen.FnS.calendar_Lunar_GetTimeChongGanTie l = .error .panic :=
  sidx_out _ 10 rfl _ h
theorem lunarGetPengZuGan_eq (h0 : -1 ≤ l.dayGanIndex) (h1 : l.dayGanIndex < 10) :
    Gen.FnS.calendar_Lunar_GetPengZuGan l = .ok (Model.pengZuGan l.dayGanIndex) :=
  sidx_succ _ 10 rfl _ h0 h1
theorem lunarGetPengZuGan_panic (h : l.dayGanIndex < -1 ∨ 10 ≤ l.dayGanIndex) :
    Gen.FnS.calendar_Lunar_GetPengZuGan l = .error .panic :=
  sidx_succ_out _ 10 rfl _ h
theorem lunarGetDayPositionFuBySect_eq (sect : Int) (h0 : -1 ≤ l.dayGanIndex) (h1 : l.dayGanIndex < 10) :
    Gen.FnS.calendar_Lunar_GetDayPositionFuBySect l sect = .ok (Model.positionFu l.dayGanIndex sect) :=
  positionFu_read _ sect h0 h1
theorem lunarGetDayPositionFuBySect_panic (sect : Int) (h : l.dayGanIndex < -1 ∨ 10 ≤ l.dayGanIndex) :
    Gen.FnS.calendar_Lunar_GetDayPositionFuBySect l sect = .error .panic :=
  positionFu_panic _ sect h
theorem lunarGetDayPositionFu_eq (h0 : -1 ≤ l.dayGanIndex) (h1 : l.dayGanIndex < 10) :
    Gen.FnS.calendar_Lunar_GetDayPositionFu l = .ok (Model.positionFu l.dayGanIndex 2) :=
  lunarGetDayPositionFuBySect_eq l 2 h0 h1
theorem lunarGetDayPositionFu_panic (h : l.dayGanIndex < -1 ∨ 10 ≤ l.dayGanIndex) :
    Gen.FnS.calendar_Lunar_GetDayPositionFu l = .error .panic :=
  lunarGetDayPositionFuBySect_panic l 2 h
theorem lunarGetDayPositionFuDescBySect_eq (sect : Int) (h0 : -1 ≤ l.dayGanIndex) (h1 : l.dayGanIndex < 10) :
    Gen.FnS.calendar_Lunar_GetDayPositionFuDescBySect l sect
      = .ok (Model.positionDesc (Model.positionFu l.dayGanIndex sect)) :=
  bind_mlookupS (lunarGetDayPositionFuBySect_eq l sect h0 h1) _
theorem lunarGetDayPositionFuDescBySect_panic (sect : Int) (h : l.dayGanIndex < -1 ∨ 10 ≤ l.dayGanIndex) :
    Gen.FnS.calendar_Lunar_GetDayPositionFuDescBySect l sect = .error .panic :=
  bind_panic (lunarGetDayPositionFuBySect_panic l sect h) _
theorem lunarGetDayPositionFuDesc_eq (h0 : -1 ≤ l.dayGanIndex) (h1 : l.dayGanIndex < 10) :
    Gen.FnS.calendar_Lunar_GetDayPositionFuDesc l = .ok (Model.positionDesc (Model.positionFu l.dayGanIndex 2)) :=
  lunarGetDayPositionFuDescBySect_eq l 2 h0 h1
theorem lunarGetDayPositionFuDesc_panic (h : l.dayGanIndex < -1 ∨ 10 ≤ l.dayGanIndex) :
    Gen.FnS.calendar_Lunar_GetDayPositionFuDesc l = .error .panic :=
  lunarGetDayPositionFuDescBySect_panic l 2 h
/-- the hour version has no `sect` parameter in `Lunar`: it always reads `POSITION_FU_2` (= sect 2) -/
theorem lunarGetTimePositionFu_eq (h0 : -1 ≤ l.timeGanIndex) (h1 : l.timeGanIndex < 10) :
    Gen.FnS.calendar_Lunar_GetTimePositionFu l = .ok (Model.positionFu l.timeGanIndex 2) :=
  sidx_succ _ 10 rfl _ h0 h1
theorem lunarGetTimePositionFu_panic (h : l.timeGanIndex < -1 ∨ 10 ≤ l.timeGanIndex) :
    Gen.FnS.calendar_Lunar_GetTimePositionFu l = .error .panic :=
  sidx_succ_out _ 10 rfl _ h
theorem lunarGetTimePositionFuDesc_eq (h0 : -1 ≤ l.timeGanIndex) (h1 : l.timeGanIndex < 10) :
    Gen.FnS.calendar_Lunar_GetTimePositionFuDesc l = .ok (Model.positionDesc (Model.positionFu l.timeGanIndex 2)) :=
  bind_mlookupS (lunarGetTimePositionFu_eq l h0 h1) _
theorem lunarGetTimePositionFuDesc_panic (h : l.timeGanIndex < -1 ∨ 10 ≤ l.timeGanIndex) :
    Gen.FnS.calendar_Lunar_GetTimePositionFuDesc l = .error .panic :=
  bind_panic (lunarGetTimePositionFu_panic l h) _

end Stem


section Branch
variable (l : Gen.FnS.Lunar)

theorem lunarGetPengZuZhi_eq (h0 : -1 ≤ l.dayZhiIndex) (h1 : l.dayZhiIndex < 12) :
    Gen.FnS.calendar_Lunar_GetPengZuZhi l = .ok (Model.pengZuZhi l.dayZhiIndex) :=
  sidx_succ _ 12 rfl _ h0 h1
theorem lunarGetPengZuZhi_panic (h : l.dayZhiIndex < -1 ∨ 12 ≤ l.dayZhiIndex) :
    Gen.FnS.calendar_Lunar_GetPengZuZhi l = .error .panic :=
  sidx_succ_out _ 12 rfl _ h
theorem lunarGetDayChong_eq (h0 : 0 ≤ l.dayZhiIndex) (h1 : l.dayZhiIndex < 12) :
    Gen.FnS.calendar_Lunar_GetDayChong l = .ok (Model.chong l.dayZhiIndex) :=
  sidx_in _ 12 rfl _ h0 h1
theorem lunarGetDayChong_panic (h : l.dayZhiIndex < 0 ∨ 12 ≤ l.dayZhiIndex) :
    Gen.FnS.calendar_Lunar_GetDayChong l = .error .panic :=
  sidx_out _ 12 rfl _ h
theorem lunarGetTimeChong_eq (h0 : 0 ≤ l.timeZhiIndex) (h1 : l.timeZhiIndex < 12) :
    Gen.FnS.calendar_Lunar_GetTimeChong l = .ok (Model.chong l.timeZhiIndex) :=
  sidx_in _ 12 rfl _ h0 h1
theorem lunarGetTimeChong_panic (h : l.timeZhiIndex < 0 ∨ 12 ≤ l.timeZhiIndex) :
    Gen.FnS.calendar_Lunar_GetTimeChong l = .error .panic :=
  sidx_out _ 12 rfl _ h
theorem lunarGetYearShengXiao_eq (h0 : -1 ≤ l.yearZhiIndex) (h1 : l.yearZhiIndex < 12) :
    Gen.FnS.calendar_Lunar_GetYearShengXiao l = .ok (Model.shengXiao l.yearZhiIndex) :=
  sidx_succ _ 12 rfl _ h0 h1
theorem lunarGetYearShengXiao_panic (h : l.yearZhiIndex < -1 ∨ 12 ≤ l.yearZhiIndex) :
    Gen.FnS.calendar_Lunar_GetYearShengXiao l = .error .panic :=
  sidx_succ_out _ 12 rfl _ h
theorem lunarGetYearShengXiaoByLiChun_eq (h0 : -1 ≤ l.yearZhiIndexByLiChun) (h1 : l.yearZhiIndexByLiChun < 12) :
    Gen.FnS.calendar_Lunar_GetYearShengXiaoByLiChun l = .ok (Model.shengXiao l.yearZhiIndexByLiChun) :=
  sidx_succ _ 12 rfl _ h0 h1
theorem lunarGetYearShengXiaoByLiChun_panic (h : l.yearZhiIndexByLiChun < -1 ∨ 12 ≤ l.yearZhiIndexByLiChun) :
    Gen.FnS.calendar_Lunar_GetYearShengXiaoByLiChun l = .error .panic :=
  sidx_succ_out _ 12 rfl _ h
theorem lunarGetYearShengXiaoExact_eq (h0 : -1 ≤ l.yearZhiIndexExact) (h1 : l.yearZhiIndexExact < 12) :
    Gen.FnS.calendar_Lunar_GetYearShengXiaoExact l = .ok (Model.shengXiao l.yearZhiIndexExact) :=
  sidx_succ _ 12 rfl _ h0 h1
theorem lunarGetYearShengXiaoExact_panic (h : l.yearZhiIndexExact < -1 ∨ 12 ≤ l.yearZhiIndexExact) :
    Gen.FnS.calendar_Lunar_GetYearShengXiaoExact l = .error .panic :=
  sidx_succ_out _ 12 rfl _ h
theorem lunarGetMonthShengXiao_eq (h0 : -1 ≤ l.monthZhiIndex) (h1 : l.monthZhiIndex < 12) :
    Gen.FnS.calendar_Lunar_GetMonthShengXiao l = .ok (Model.shengXiao l.monthZhiIndex) :=
  sidx_succ _ 12 rfl _ h0 h1
theorem lunarGetMonthShengXiao_panic (h : l.monthZhiIndex < -1 ∨ 12 ≤ l.monthZhiIndex) :
    Gen.FnS.calendar_Lunar_GetMonthShengXiao l = .error .panic :=
  sidx_succ_out _ 12 rfl _ h
theorem lunarGetDayShengXiao_eq (h0 : -1 ≤ l.dayZhiIndex) (h1 : l.dayZhiIndex < 12) :
    Gen.FnS.calendar_Lunar_GetDayShengXiao l = .ok (Model.shengXiao l.dayZhiIndex) :=
  sidx_succ _ 12 rfl _ h0 h1
theorem lunarGetDayShengXiao_panic (h : l.dayZhiIndex < -1 ∨ 12 ≤ l.dayZhiIndex) :
    Gen.FnS.calendar_Lunar_GetDayShengXiao l = .error .panic :=
  sidx_succ_out _ 12 rfl _ h
theorem lunarGetTimeShengXiao_eq (h0 : -1 ≤ l.timeZhiIndex) (h1 : l.timeZhiIndex < 12) :
    Gen.FnS.calendar_Lunar_GetTimeShengXiao l = .ok (Model.shengXiao l.timeZhiIndex) :=
  sidx_succ _ 12 rfl _ h0 h1
theorem lunarGetTimeShengXiao_panic (h : l.timeZhiIndex < -1 ∨ 12 ≤ l.timeZhiIndex) :
    Gen.FnS.calendar_Lunar_GetTimeShengXiao l = .error .panic :=
  sidx_succ_out _ 12 rfl _ h
theorem lunarGetDaySha_eq (h0 : -1 ≤ l.dayZhiIndex) (h1 : l.dayZhiIndex < 12) :
    Gen.FnS.calendar_Lunar_GetDaySha l = .ok (Model.sha l.dayZhiIndex) :=
  sha_read _ h0 h1
theorem lunarGetDaySha_panic (h : l.dayZhiIndex < -1 ∨ 12 ≤ l.dayZhiIndex) :
    Gen.FnS.calendar_Lunar_GetDaySha l = .error .panic :=
  bind_panic (sidx_ZHI_panic _ h) _
theorem lunarGetTimeSha_eq (h0 : -1 ≤ l.timeZhiIndex) (h1 : l.timeZhiIndex < 12) :
    Gen.FnS.calendar_Lunar_GetTimeSha l = .ok (Model.sha l.timeZhiIndex) :=
  sha_read _ h0 h1
theorem lunarGetTimeSha_panic (h : l.timeZhiIndex < -1 ∨ 12 ≤ l.timeZhiIndex) :
    Gen.FnS.calendar_Lunar_GetTimeSha l = .error .panic :=
  bind_panic (sidx_ZHI_panic _ h) _

theorem lunarGetDayChongShengXiao_eq (h0 : 0 ≤ l.dayZhiIndex) (h1 : l.dayZhiIndex < 12) :
    Gen.FnS.calendar_Lunar_GetDayChongShengXiao l = .ok (Model.chongShengXiao l.dayZhiIndex) :=
  chongShengXiao_read _ h0 h1
theorem lunarGetDayChongShengXiao_panic (h : l.dayZhiIndex < 0 ∨ 12 ≤ l.dayZhiIndex) :
    Gen.FnS.calendar_Lunar_GetDayChongShengXiao l = .error .panic :=
  bind_panic (sidx_out _ 12 rfl _ h) _
theorem lunarGetTimeChongShengXiao_eq (h0 : 0 ≤ l.timeZhiIndex) (h1 : l.timeZhiIndex < 12) :
    Gen.FnS.calendar_Lunar_GetTimeChongShengXiao l = .ok (Model.chongShengXiao l.timeZhiIndex) :=
  chongShengXiao_read _ h0 h1
theorem lunarGetTimeChongShengXiao_panic (h : l.timeZhiIndex < 0 ∨ 12 ≤ l.timeZhiIndex) :
    Gen.FnS.calendar_Lunar_GetTimeChongShengXiao l = .error .panic :=
  bind_panic (sidx_out _ 12 rfl _ h) _

theorem lunarGetDayChongDesc_eq (g0 : 0 ≤ l.dayGanIndex) (g1 : l.dayGanIndex < 10)
    (z0 : 0 ≤ l.dayZhiIndex) (z1 : l.dayZhiIndex < 12) :
    Gen.FnS.calendar_Lunar_GetDayChongDesc l = .ok (Model.chongDesc l.dayGanIndex l.dayZhiIndex) :=
  chongDesc_read _ _ g0 g1 z0 z1
theorem lunarGetDayChongDesc_panic (h : l.dayGanIndex < 0 ∨ 10 ≤ l.dayGanIndex ∨ l.dayZhiIndex < 0 ∨ 12 ≤ l.dayZhiIndex) :
    Gen.FnS.calendar_Lunar_GetDayChongDesc l = .error .panic :=
  chongDesc_panic _ _ h _
theorem lunarGetTimeChongDesc_eq (g0 : 0 ≤ l.timeGanIndex) (g1 : l.timeGanIndex < 10)
    (z0 : 0 ≤ l.timeZhiIndex) (z1 : l.timeZhiIndex < 12) :
    Gen.FnS.calendar_Lunar_GetTimeChongDesc l = .ok (Model.chongDesc l.timeGanIndex l.timeZhiIndex) :=
  chongDesc_read _ _ g0 g1 z0 z1
theorem lunarGetTimeChongDesc_panic
    (h : l.timeGanIndex < 0 ∨ 10 ≤ l.timeGanIndex ∨ l.timeZhiIndex < 0 ∨ 12 ≤ l.timeZhiIndex) :
    Gen.FnS.calendar_Lunar_GetTimeChongDesc l = .error .panic :=
  chongDesc_panic _ _ h _

end Branch


section TaiSui
variable (l : Gen.FnS.Lunar)

/-- the year branch selected by the school: 1 → lunar new year, 3 → exact Li Chun instant, else → Li Chun day -/
def s1_yearZhiBySect (l : Gen.FnS.Lunar) (sect : Int) : Int :=
  if sect = 1 then l.yearZhiIndex else if sect = 3 then l.yearZhiIndexExact else l.yearZhiIndexByLiChun

theorem s1_taiSui_unfold (sect : Int) : Gen.FnS.calendar_Lunar_GetYearPositionTaiSuiBySect l sect
    = Gen.FnS.sidx LunarUtil.«POSITION_TAI_SUI_YEAR» (s1_yearZhiBySect l sect) := by
  unfold Gen.FnS.calendar_Lunar_GetYearPositionTaiSuiBySect s1_yearZhiBySect
  by_cases h1 : sect = 1
  · simp [h1]
  · by_cases h3 : sect = 3
    · simp [h3]
    · simp [h1, h3]

theorem lunarGetYearPositionTaiSuiBySect_eq (sect : Int)
    (h0 : 0 ≤ s1_yearZhiBySect l sect) (h1 : s1_yearZhiBySect l sect < 12) :
    Gen.FnS.calendar_Lunar_GetYearPositionTaiSuiBySect l sect
      = .ok (Model.positionTaiSuiYear (s1_yearZhiBySect l sect)) := by
  rw [s1_taiSui_unfold]; exact sidx_in _ 12 rfl _ h0 h1
theorem lunarGetYearPositionTaiSuiBySect_panic (sect : Int)
    (h : s1_yearZhiBySect l sect < 0 ∨ 12 ≤ s1_yearZhiBySect l sect) :
    Gen.FnS.calendar_Lunar_GetYearPositionTaiSuiBySect l sect = .error .panic := by
  rw [s1_taiSui_unfold]; exact sidx_out _ 12 rfl _ h
theorem lunarGetYearPositionTaiSuiBySect_1 (h0 : 0 ≤ l.yearZhiIndex) (h1 : l.yearZhiIndex < 12) :
    Gen.FnS.calendar_Lunar_GetYearPositionTaiSuiBySect l 1 = .ok (Model.positionTaiSuiYear l.yearZhiIndex) :=
  lunarGetYearPositionTaiSuiBySect_eq l 1 h0 h1
theorem lunarGetYearPositionTaiSuiBySect_3 (h0 : 0 ≤ l.yearZhiIndexExact) (h1 : l.yearZhiIndexExact < 12) :
    Gen.FnS.calendar_Lunar_GetYearPositionTaiSuiBySect l 3 = .ok (Model.positionTaiSuiYear l.yearZhiIndexExact) :=
  lunarGetYearPositionTaiSuiBySect_eq l 3 h0 h1
theorem lunarGetYearPositionTaiSuiBySect_other (sect : Int) (hs1 : sect ≠ 1) (hs3 : sect ≠ 3)
    (h0 : 0 ≤ l.yearZhiIndexByLiChun) (h1 : l.yearZhiIndexByLiChun < 12) :
    Gen.FnS.calendar_Lunar_GetYearPositionTaiSuiBySect l sect
      = .ok (Model.positionTaiSuiYear l.yearZhiIndexByLiChun) := by
  have e : s1_yearZhiBySect l sect = l.yearZhiIndexByLiChun := by rw [s1_yearZhiBySect, if_neg hs1, if_neg hs3]
  rw [← e] at h0 h1 ⊢; exact lunarGetYearPositionTaiSuiBySect_eq l sect h0 h1
/-- default school 2: the Li Chun day -/
theorem lunarGetYearPositionTaiSui_eq (h0 : 0 ≤ l.yearZhiIndexByLiChun) (h1 : l.yearZhiIndexByLiChun < 12) :
    Gen.FnS.calendar_Lunar_GetYearPositionTaiSui l = .ok (Model.positionTaiSuiYear l.yearZhiIndexByLiChun) :=
  lunarGetYearPositionTaiSuiBySect_other l 2 (by decide) (by decide) h0 h1
theorem lunarGetYearPositionTaiSui_panic (h : l.yearZhiIndexByLiChun < 0 ∨ 12 ≤ l.yearZhiIndexByLiChun) :
    Gen.FnS.calendar_Lunar_GetYearPositionTaiSui l = .error .panic :=
  lunarGetYearPositionTaiSuiBySect_panic l 2 h
theorem lunarGetYearPositionTaiSuiDescBySect_eq (sect : Int)
    (h0 : 0 ≤ s1_yearZhiBySect l sect) (h1 : s1_yearZhiBySect l sect < 12) :
    Gen.FnS.calendar_Lunar_GetYearPositionTaiSuiDescBySect l sect
      = .ok (Model.positionDesc (Model.positionTaiSuiYear (s1_yearZhiBySect l sect))) :=
  bind_mlookupS (lunarGetYearPositionTaiSuiBySect_eq l sect h0 h1) _
theorem lunarGetYearPositionTaiSuiDescBySect_panic (sect : Int)
    (h : s1_yearZhiBySect l sect < 0 ∨ 12 ≤ s1_yearZhiBySect l sect) :
    Gen.FnS.calendar_Lunar_GetYearPositionTaiSuiDescBySect l sect = .error .panic :=
  bind_panic (lunarGetYearPositionTaiSuiBySect_panic l sect h) _
theorem lunarGetYearPositionTaiSuiDesc_eq (h0 : 0 ≤ l.yearZhiIndexByLiChun) (h1 : l.yearZhiIndexByLiChun < 12) :
    Gen.FnS.calendar_Lunar_GetYearPositionTaiSuiDesc l
      = .ok (Model.positionDesc (Model.positionTaiSuiYear l.yearZhiIndexByLiChun)) :=
  bind_mlookupS (lunarGetYearPositionTaiSui_eq l h0 h1) _
theorem lunarGetYearPositionTaiSuiDesc_panic (h : l.yearZhiIndexByLiChun < 0 ∨ 12 ≤ l.yearZhiIndexByLiChun) :
    Gen.FnS.calendar_Lunar_GetYearPositionTaiSuiDesc l = .error .panic :=
  bind_panic (lunarGetYearPositionTaiSui_panic l h) _

end TaiSui


/-! Deprecated aliases: each is definitionally its target (`_fwd` is `rfl`). -/
section Aliases
variable (l : Gen.FnS.Lunar)

/-- deprecated alias: forwards to `GetDayPositionXi` -/
theorem lunarGetPositionXi_fwd : Gen.FnS.calendar_Lunar_GetPositionXi l = Gen.FnS.calendar_Lunar_GetDayPositionXi l := rfl
theorem lunarGetPositionXi_eq (h0 : -1 ≤ l.dayGanIndex) (h1 : l.dayGanIndex < 10) :
    Gen.FnS.calendar_Lunar_GetPositionXi l = .ok (Model.positionXi l.dayGanIndex) :=
  lunarGetDayPositionXi_eq l h0 h1
/-- deprecated alias: forwards to `GetDayPositionXiDesc` -/
theorem lunarGetPositionXiDesc_fwd : Gen.FnS.calendar_Lunar_GetPositionXiDesc l = Gen.FnS.calendar_Lunar_GetDayPositionXiDesc l := rfl
theorem lunarGetPositionXiDesc_eq (h0 : -1 ≤ l.dayGanIndex) (h1 : l.dayGanIndex < 10) :
    Gen.FnS.calendar_Lunar_GetPositionXiDesc l = .ok (Model.positionDesc (Model.positionXi l.dayGanIndex)) :=
  lunarGetDayPositionXiDesc_eq l h0 h1
/-- deprecated alias: forwards to `GetDayPositionYangGui` -/
theorem lunarGetPositionYangGui_fwd : Gen.FnS.calendar_Lunar_GetPositionYangGui l = Gen.FnS.calendar_Lunar_GetDayPositionYangGui l := rfl
theorem lunarGetPositionYangGui_eq (h0 : -1 ≤ l.dayGanIndex) (h1 : l.dayGanIndex < 10) :
    Gen.FnS.calendar_Lunar_GetPositionYangGui l = .ok (Model.positionYangGui l.dayGanIndex) :=
  lunarGetDayPositionYangGui_eq l h0 h1
/-- deprecated alias: forwards to `GetDayPositionYangGuiDesc` -/
theorem lunarGetPositionYangGuiDesc_fwd : Gen.FnS.calendar_Lunar_GetPositionYangGuiDesc l = Gen.FnS.calendar_Lunar_GetDayPositionYangGuiDesc l := rfl
theorem lunarGetPositionYangGuiDesc_eq (h0 : -1 ≤ l.dayGanIndex) (h1 : l.dayGanIndex < 10) :
    Gen.FnS.calendar_Lunar_GetPositionYangGuiDesc l = .ok (Model.positionDesc (Model.positionYangGui l.dayGanIndex)) :=
  lunarGetDayPositionYangGuiDesc_eq l h0 h1
/-- deprecated alias: forwards to `GetDayPositionYinGui` -/
theorem lunarGetPositionYinGui_fwd : Gen.FnS.calendar_Lunar_GetPositionYinGui l = Gen.FnS.calendar_Lunar_GetDayPositionYinGui l := rfl
theorem lunarGetPositionYinGui_eq (h0 : -1 ≤ l.dayGanIndex) (h1 : l.dayGanIndex < 10) :
    Gen.FnS.calendar_Lunar_GetPositionYinGui l = .ok (Model.positionYinGui l.dayGanIndex) :=
  lunarGetDayPositionYinGui_eq l h0 h1
/-- deprecated alias: forwards to `GetDayPositionYinGuiDesc` -/
theorem lunarGetPositionYinGuiDesc_fwd : Gen.FnS.calendar_Lunar_GetPositionYinGuiDesc l = Gen.FnS.calendar_Lunar_GetDayPositionYinGuiDesc l := rfl
theorem lunarGetPositionYinGuiDesc_eq (h0 : -1 ≤ l.dayGanIndex) (h1 : l.dayGanIndex < 10) :
    Gen.FnS.calendar_Lunar_GetPositionYinGuiDesc l = .ok (Model.positionDesc (Model.positionYinGui l.dayGanIndex)) :=
  lunarGetDayPositionYinGuiDesc_eq l h0 h1
/-- deprecated alias: forwards to `GetDayPositionCai` -/
theorem lunarGetPositionCai_fwd : Gen.FnS.calendar_Lunar_GetPositionCai l = Gen.FnS.calendar_Lunar_GetDayPositionCai l := rfl
theorem lunarGetPositionCai_eq (h0 : -1 ≤ l.dayGanIndex) (h1 : l.dayGanIndex < 10) :
    Gen.FnS.calendar_Lunar_GetPositionCai l = .ok (Model.positionCai l.dayGanIndex) :=
  lunarGetDayPositionCai_eq l h0 h1
/-- deprecated alias: forwards to `GetDayPositionCaiDesc` -/
theorem lunarGetPositionCaiDesc_fwd : Gen.FnS.calendar_Lunar_GetPositionCaiDesc l = Gen.FnS.calendar_Lunar_GetDayPositionCaiDesc l := rfl
theorem lunarGetPositionCaiDesc_eq (h0 : -1 ≤ l.dayGanIndex) (h1 : l.dayGanIndex < 10) :
    Gen.FnS.calendar_Lunar_GetPositionCaiDesc l = .ok (Model.positionDesc (Model.positionCai l.dayGanIndex)) :=
  lunarGetDayPositionCaiDesc_eq l h0 h1
/-- deprecated alias: forwards to `GetDayPositionFu` -/
theorem lunarGetPositionFu_fwd : Gen.FnS.calendar_Lunar_GetPositionFu l = Gen.FnS.calendar_Lunar_GetDayPositionFu l := rfl
theorem lunarGetPositionFu_eq (h0 : -1 ≤ l.dayGanIndex) (h1 : l.dayGanIndex < 10) :
    Gen.FnS.calendar_Lunar_GetPositionFu l = .ok (Model.positionFu l.dayGanIndex 2) :=
  lunarGetDayPositionFu_eq l h0 h1
/-- deprecated alias: forwards to `GetDayPositionFuDesc` -/
theorem lunarGetPositionFuDesc_fwd : Gen.FnS.calendar_Lunar_GetPositionFuDesc l = Gen.FnS.calendar_Lunar_GetDayPositionFuDesc l := rfl
theorem lunarGetPositionFuDesc_eq (h0 : -1 ≤ l.dayGanIndex) (h1 : l.dayGanIndex < 10) :
    Gen.FnS.calendar_Lunar_GetPositionFuDesc l = .ok (Model.positionDesc (Model.positionFu l.dayGanIndex 2)) :=
  lunarGetDayPositionFuDesc_eq l h0 h1
/-- deprecated alias: forwards to `GetDayChong` -/
theorem lunarGetChong_fwd : Gen.FnS.calendar_Lunar_GetChong l = Gen.FnS.calendar_Lunar_GetDayChong l := rfl
theorem lunarGetChong_eq (h0 : 0 ≤ l.dayZhiIndex) (h1 : l.dayZhiIndex < 12) :
    Gen.FnS.calendar_Lunar_GetChong l = .ok (Model.chong l.dayZhiIndex) :=
  lunarGetDayChong_eq l h0 h1
/-- deprecated alias: forwards to `GetDayChongGan` -/
theorem lunarGetChongGan_fwd : Gen.FnS.calendar_Lunar_GetChongGan l = Gen.FnS.calendar_Lunar_GetDayChongGan l := rfl
theorem lunarGetChongGan_eq (h0 : 0 ≤ l.dayGanIndex) (h1 : l.dayGanIndex < 10) :
    Gen.FnS.calendar_Lunar_GetChongGan l = .ok (Model.chongGan l.dayGanIndex) :=
  lunarGetDayChongGan_eq l h0 h1
/-- deprecated alias: forwards to `GetDayChongGanTie` -/
theorem lunarGetChongGanTie_fwd : Gen.FnS.calendar_Lunar_GetChongGanTie l = Gen.FnS.calendar_Lunar_GetDayChongGanTie l := rfl
theorem lunarGetChongGanTie_eq (h0 : 0 ≤ l.dayGanIndex) (h1 : l.dayGanIndex < 10) :
    Gen.FnS.calendar_Lunar_GetChongGanTie l = .ok (Model.chongGanTie l.dayGanIndex) :=
  lunarGetDayChongGanTie_eq l h0 h1
/-- deprecated alias: forwards to `GetDayChongShengXiao` -/
theorem lunarGetChongShengXiao_fwd : Gen.FnS.calendar_Lunar_GetChongShengXiao l = Gen.FnS.calendar_Lunar_GetDayChongShengXiao l := rfl
theorem lunarGetChongShengXiao_eq (h0 : 0 ≤ l.dayZhiIndex) (h1 : l.dayZhiIndex < 12) :
    Gen.FnS.calendar_Lunar_GetChongShengXiao l = .ok (Model.chongShengXiao l.dayZhiIndex) :=
  lunarGetDayChongShengXiao_eq l h0 h1
/-- deprecated alias: forwards to `GetDayChongDesc` -/
theorem lunarGetChongDesc_fwd : Gen.FnS.calendar_Lunar_GetChongDesc l = Gen.FnS.calendar_Lunar_GetDayChongDesc l := rfl
theorem lunarGetChongDesc_eq (g0 : 0 ≤ l.dayGanIndex) (g1 : l.dayGanIndex < 10) (z0 : 0 ≤ l.dayZhiIndex) (z1 : l.dayZhiIndex < 12) :
    Gen.FnS.calendar_Lunar_GetChongDesc l = .ok (Model.chongDesc l.dayGanIndex l.dayZhiIndex) :=
  lunarGetDayChongDesc_eq l g0 g1 z0 z1
/-- deprecated alias: forwards to `GetDaySha` -/
theorem lunarGetSha_fwd : Gen.FnS.calendar_Lunar_GetSha l = Gen.FnS.calendar_Lunar_GetDaySha l := rfl
theorem lunarGetSha_eq (h0 : -1 ≤ l.dayZhiIndex) (h1 : l.dayZhiIndex < 12) :
    Gen.FnS.calendar_Lunar_GetSha l = .ok (Model.sha l.dayZhiIndex) :=
  lunarGetDaySha_eq l h0 h1
/-- deprecated alias: forwards to `GetYearShengXiao` -/
theorem lunarGetShengxiao_fwd : Gen.FnS.calendar_Lunar_GetShengxiao l = Gen.FnS.calendar_Lunar_GetYearShengXiao l := rfl
theorem lunarGetShengxiao_eq (h0 : -1 ≤ l.yearZhiIndex) (h1 : l.yearZhiIndex < 12) :
    Gen.FnS.calendar_Lunar_GetShengxiao l = .ok (Model.shengXiao l.yearZhiIndex) :=
  lunarGetYearShengXiao_eq l h0 h1
/-- deprecated alias: forwards to `GetYearGan` -/
theorem lunarGetGan_fwd : Gen.FnS.calendar_Lunar_GetGan l = Gen.FnS.calendar_Lunar_GetYearGan l := rfl
theorem lunarGetGan_eq (h0 : -1 ≤ l.yearGanIndex) (h1 : l.yearGanIndex < 10) :
    Gen.FnS.calendar_Lunar_GetGan l = .ok (Model.ganStr l.yearGanIndex) :=
  lunarGetYearGan_eq l h0 h1
/-- deprecated alias: forwards to `GetYearZhi` -/
theorem lunarGetZhi_fwd : Gen.FnS.calendar_Lunar_GetZhi l = Gen.FnS.calendar_Lunar_GetYearZhi l := rfl
theorem lunarGetZhi_eq (h0 : -1 ≤ l.yearZhiIndex) (h1 : l.yearZhiIndex < 12) :
    Gen.FnS.calendar_Lunar_GetZhi l = .ok (Model.zhiStr l.yearZhiIndex) :=
  lunarGetYearZhi_eq l h0 h1
end Aliases

section Axioms
#print axioms s1_loop_eq
#print axioms lunarGetDayPositionXi_eq
#print axioms lunarGetDayPositionXi_panic
#print axioms lunarGetDayPositionXiDesc_eq
#print axioms lunarGetDayPositionXiDesc_panic
#print axioms lunarGetDayPositionYangGui_eq
#print axioms lunarGetDayPositionYangGui_panic
#print axioms lunarGetDayPositionYangGuiDesc_eq
#print axioms lunarGetDayPositionYangGuiDesc_panic
#print axioms lunarGetDayPositionYinGui_eq
#print axioms lunarGetDayPositionYinGui_panic
#print axioms lunarGetDayPositionYinGuiDesc_eq
#print axioms lunarGetDayPositionYinGuiDesc_panic
#print axioms lunarGetDayPositionCai_eq
#print axioms lunarGetDayPositionCai_panic
#print axioms lunarGetDayPositionCaiDesc_eq
#print axioms lunarGetDayPositionCaiDesc_panic
#print axioms lunarGetDayChongGan_eq
#print axioms lunarGetDayChongGan_panic
#print axioms lunarGetDayChongGanTie_eq
#print axioms lunarGetDayChongGanTie_panic
#print axioms lunarGetTimePositionXi_eq
#print axioms lunarGetTimePositionXi_panic
#print axioms lunarGetTimePositionXiDesc_eq
#print axioms lunarGetTimePositionXiDesc_panic
#print axioms lunarGetTimePositionYangGui_eq
#print axioms lunarGetTimePositionYangGui_panic
#print axioms lunarGetTimePositionYangGuiDesc_eq
#print axioms lunarGetTimePositionYangGuiDesc_panic
#print axioms lunarGetTimePositionYinGui_eq
#print axioms lunarGetTimePositionYinGui_panic
#print axioms lunarGetTimePositionYinGuiDesc_eq
#print axioms lunarGetTimePositionYinGuiDesc_panic
#print axioms lunarGetTimePositionCai_eq
#print axioms lunarGetTimePositionCai_panic
#print axioms lunarGetTimePositionCaiDesc_eq
#print axioms lunarGetTimePositionCaiDesc_panic
#print axioms lunarGetTimeChongGan_eq
#print axioms lunarGetTimeChongGan_panic
#print axioms lunarGetTimeChongGanTie_eq
#print axioms lunarGetTimeChongGanTie_panic
#print axioms lunarGetPengZuGan_eq
#print axioms lunarGetPengZuGan_panic
#print axioms lunarGetDayPositionFuBySect_eq
#print axioms lunarGetDayPositionFuBySect_panic
#print axioms lunarGetDayPositionFu_eq
#print axioms lunarGetDayPositionFu_panic
#print axioms lunarGetDayPositionFuDescBySect_eq
#print axioms lunarGetDayPositionFuDescBySect_panic
#print axioms lunarGetDayPositionFuDesc_eq
#print axioms lunarGetDayPositionFuDesc_panic
#print axioms lunarGetTimePositionFu_eq
#print axioms lunarGetTimePositionFu_panic
#print axioms lunarGetTimePositionFuDesc_eq
#print axioms lunarGetTimePositionFuDesc_panic
#print axioms lunarGetPengZuZhi_eq
#print axioms lunarGetPengZuZhi_panic
#print axioms lunarGetDayChong_eq
#print axioms lunarGetDayChong_panic
#print axioms lunarGetTimeChong_eq
#print axioms lunarGetTimeChong_panic
#print axioms lunarGetYearShengXiao_eq
#print axioms lunarGetYearShengXiao_panic
#print axioms lunarGetYearShengXiaoByLiChun_eq
#print axioms lunarGetYearShengXiaoByLiChun_panic
#print axioms lunarGetYearShengXiaoExact_eq
#print axioms lunarGetYearShengXiaoExact_panic
#print axioms lunarGetMonthShengXiao_eq
#print axioms lunarGetMonthShengXiao_panic
#print axioms lunarGetDayShengXiao_eq
#print axioms lunarGetDayShengXiao_panic
#print axioms lunarGetTimeShengXiao_eq
#print axioms lunarGetTimeShengXiao_panic
#print axioms lunarGetDaySha_eq
#print axioms lunarGetDaySha_panic
#print axioms lunarGetTimeSha_eq
#print axioms lunarGetTimeSha_panic
#print axioms lunarGetDayChongShengXiao_eq
#print axioms lunarGetDayChongShengXiao_panic
#print axioms lunarGetTimeChongShengXiao_eq
#print axioms lunarGetTimeChongShengXiao_panic
#print axioms lunarGetDayChongDesc_eq
#print axioms lunarGetDayChongDesc_panic
#print axioms lunarGetTimeChongDesc_eq
#print axioms lunarGetTimeChongDesc_panic
#print axioms lunarGetYearPositionTaiSuiBySect_eq
#print axioms lunarGetYearPositionTaiSuiBySect_panic
#print axioms lunarGetYearPositionTaiSuiBySect_1
#print axioms lunarGetYearPositionTaiSuiBySect_3
#print axioms lunarGetYearPositionTaiSuiBySect_other
#print axioms lunarGetYearPositionTaiSui_eq
#print axioms lunarGetYearPositionTaiSui_panic
#print axioms lunarGetYearPositionTaiSuiDescBySect_eq
#print axioms lunarGetYearPositionTaiSuiDescBySect_panic
#print axioms lunarGetYearPositionTaiSuiDesc_eq
#print axioms lunarGetYearPositionTaiSuiDesc_panic
#print axioms lunarGetPositionXi_fwd
#print axioms lunarGetPositionXi_eq
#print axioms lunarGetPositionXiDesc_fwd
#print axioms lunarGetPositionXiDesc_eq
#print axioms lunarGetPositionYangGui_fwd
#print axioms lunarGetPositionYangGui_eq
#print axioms lunarGetPositionYangGuiDesc_fwd
#print axioms lunarGetPositionYangGuiDesc_eq
#print axioms lunarGetPositionYinGui_fwd
#print axioms lunarGetPositionYinGui_eq
#print axioms lunarGetPositionYinGuiDesc_fwd
#print axioms lunarGetPositionYinGuiDesc_eq
#print axioms lunarGetPositionCai_fwd
#print axioms lunarGetPositionCai_eq
#print axioms lunarGetPositionCaiDesc_fwd
#print axioms lunarGetPositionCaiDesc_eq
#print axioms lunarGetPositionFu_fwd
#print axioms lunarGetPositionFu_eq
#print axioms lunarGetPositionFuDesc_fwd
#print axioms lunarGetPositionFuDesc_eq
#print axioms lunarGetChong_fwd
#print axioms lunarGetChong_eq
#print axioms lunarGetChongGan_fwd
#print axioms lunarGetChongGan_eq
#print axioms lunarGetChongGanTie_fwd
#print axioms lunarGetChongGanTie_eq
#print axioms lunarGetChongShengXiao_fwd
#print axioms lunarGetChongShengXiao_eq
#print axioms lunarGetChongDesc_fwd
#print axioms lunarGetChongDesc_eq
#print axioms lunarGetSha_fwd
#print axioms lunarGetSha_eq
#print axioms lunarGetShengxiao_fwd
#print axioms lunarGetShengxiao_eq
#print axioms lunarGetGan_fwd
#print axioms lunarGetGan_eq
#print axioms lunarGetZhi_fwd
#print axioms lunarGetZhi_eq
end Axioms
end FnSEq
