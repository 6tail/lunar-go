/-
Proofs.AlmanacSpec — C18: classical laws of the almanac as facts about the regenerated tables; C18/C11:
the almanac attributes are functions of their defining inputs, stated on `Driver.almVector` and
`Driver.showEC`, the vectors the driver prints for comparison with Go (hence the import).
-/
import Driver.OpsAlmanac
namespace Model
open Gen.Tables

theorem jiazi_compose : (List.range 60).all (fun i => Gen.Tables.LunarUtil.JIA_ZI.getD i "" == (Gen.Tables.LunarUtil.GAN.getD (i % 10 + 1) "" ++ Gen.Tables.LunarUtil.ZHI.getD (i % 12 + 1) "")) = true := by
  decide +kernel

/-- the clash branch is six places away -/
theorem chong_six_away : (List.range 12).all (fun i => Gen.Tables.LunarUtil.CHONG.getD i "" == Gen.Tables.LunarUtil.ZHI.getD ((i + 6) % 12 + 1) "?") = true := by
  decide +kernel

/-- the two pillars 2k, 2k+1 of the 60-cycle share one nayin element, and every pillar has one -/
theorem nayin_pairs : (List.range 30).all (fun k => let a := lookupStr Gen.Tables.LunarUtil.NAYIN (Gen.Tables.LunarUtil.JIA_ZI.getD (2*k) ""); a != "" && a == lookupStr Gen.Tables.LunarUtil.NAYIN (Gen.Tables.LunarUtil.JIA_ZI.getD (2*k+1) "")) = true := by
  decide +kernel

theorem alm_zhiXing_tab : ∀ k : Nat, k < 12 → (strGetD LunarUtil.ZHI_XING ((k : Int) + 1) = strGetD LunarUtil.ZHI_XING 1 ↔ k = 0) := by
  decide +kernel

/-- the duty god is 建 (entry 1) exactly when day and month branches coincide, and advances one per branch step -/
theorem zhiXing_jian (mz dz : Int) (hm : 0 ≤ mz ∧ mz ≤ 11) (hd : 0 ≤ dz ∧ dz ≤ 11) :
    (zhiXing mz dz = strGetD Gen.Tables.LunarUtil.ZHI_XING 1 ↔ dz = mz) ∧ zhiXing mz dz = strGetD Gen.Tables.LunarUtil.ZHI_XING ((dz - mz) % 12 + 1) := by
  have e : zhiXing mz dz = strGetD LunarUtil.ZHI_XING ((dz - mz) % 12 + 1) := by
    unfold zhiXing
    simp only
    congr 1
    split <;> omega
  obtain ⟨k, hk⟩ : ∃ k : Nat, (dz - mz) % 12 = k := ⟨((dz - mz) % 12).toNat, by omega⟩
  rw [e, hk]
  exact ⟨(alm_zhiXing_tab k (by omega)).trans (by omega), rfl⟩

theorem zhiXing_distinct : (Gen.Tables.LunarUtil.ZHI_XING.drop 1).Nodup ∧ Gen.Tables.LunarUtil.ZHI_XING.length = 13 := by
  decide +kernel

/-- the mansion of day number n: branch (n−11) mod 12, weekday (n+7000001) mod 7 -/
def alm_xiuOf (n : Int) : String := xiu ((n - 11) % 12) ((n + 7000001) % 7)

/-- all 84 (branch, weekday) keys of the mansion table are present -/
theorem xiu_keys_present : (List.range 12).all (fun z => (List.range 7).all (fun w => xiu (z : Int) (w : Int) != "")) = true := by
  decide +kernel

def alm_xiuOrder : List String := (List.range 28).map fun (n : Nat) => alm_xiuOf (n : Int)

theorem alm_xiu_84 : ∀ k : Nat, k < 84 → alm_xiuOf (k : Int) = alm_xiuOrder.getD (k % 28) "?" := by
  decide +kernel

theorem alm_xiuOf_mod (n : Int) : alm_xiuOf n = alm_xiuOf (n % 84) := by
  unfold alm_xiuOf
  congr 1 <;> omega

/-- the mansion of day n is entry (n + c) mod 28 of ONE fixed 28-order, for a constant c: it advances
one per day in step with the weekday. (12 · 7 = 84 days bring branch and weekday back, and 28 ∣ 84.) -/
theorem xiu_cycle : ∃ order : List String, order.length = 28 ∧ order.Nodup ∧ ∃ c : Nat, ∀ n : Int, 0 ≤ n → alm_xiuOf n = order.getD ((n.toNat + c) % 28) "?" := by
  refine ⟨alm_xiuOrder, by decide +kernel, by decide +kernel, 0, fun n hn => ?_⟩
  obtain ⟨k, hk⟩ : ∃ k : Nat, n % 84 = k := ⟨(n % 84).toNat, by omega⟩
  rw [alm_xiuOf_mod, hk, alm_xiu_84 k (by omega)]
  congr 1
  omega

/-- the day/hour almanac vector depends only on these fields of the lunar date -/
def alm_inputs (l : Lunar) : List Int := [l.month, l.day, l.weekIndex, l.yearGanIndex, l.yearZhiIndex, l.yearGanIndexByLiChun, l.yearZhiIndexByLiChun,
  l.yearGanIndexExact, l.yearZhiIndexExact, l.monthGanIndex, l.monthZhiIndex, l.monthGanIndexExact, l.monthZhiIndexExact,
  l.dayGanIndex, l.dayZhiIndex, l.dayGanIndexExact, l.dayZhiIndexExact, l.dayGanIndexExact2, l.dayZhiIndexExact2, l.timeGanIndex, l.timeZhiIndex]

theorem almVector_congr (l l' : Lunar) (h : alm_inputs l = alm_inputs l') : Driver.almVector l = Driver.almVector l' := by
  simp only [alm_inputs, List.cons.injEq, and_true] at h
  simp only [Driver.almVector, h]

/-- the hour object's attributes equal the lunar date's own hour attributes: for a Lunar built by `computeAll`, the hour pillar recomputed from (hour, minute, early-rat day stem) IS the stored one, so `timeVector` (hour object route) and the hour entries of `almVector` (lunar route) are the same functions of the same inputs -/
theorem hour_routes_agree (ly lm ld h mi sec : Int) (s : Solar) (ya : YearAstro) :
    let l := computeAll ly lm ld h mi sec s ya
    timeZhiIndexOf l.hour l.minute = l.timeZhiIndex ∧ (l.dayGanIndexExact % 5 * 2 + timeZhiIndexOf l.hour l.minute) % 10 = l.timeGanIndex := by
  simp only [computeAll, and_self]

/-- EightChar: every derived attribute is a function of the four pillars selected by the sect (plus the exact year stem for MingGong/ShenGong): two charts with the same pillars report the same attributes -/
def alm_ecInputs (e : EightChar) : List Int := [e.yearG, e.yearZ, e.monthG, e.monthZ, e.dayG, e.dayZ, e.timeG, e.timeZ, e.lunar.yearGanIndexExact]

theorem eightChar_congr (e e' : EightChar) (h : alm_ecInputs e = alm_ecInputs e') : Driver.showEC e = Driver.showEC e' := by
  simp only [alm_ecInputs, List.cons.injEq, and_true] at h
  simp only [Driver.showEC, EightChar.shiShenGan, EightChar.shiShenZhi, EightChar.yearDiShi, EightChar.monthDiShi, EightChar.dayDiShi,
    EightChar.timeDiShi, EightChar.diShi, EightChar.taiYuan, EightChar.taiXi, EightChar.mingGong, EightChar.shenGong, h]

/-- in particular the day life stage uses the sect-selected day branch -/
theorem dayDiShi_uses_sect (e : EightChar) : e.dayDiShi = e.diShi e.dayZ := rfl

#print axioms jiazi_compose
#print axioms chong_six_away
#print axioms nayin_pairs
#print axioms zhiXing_jian
#print axioms zhiXing_distinct
#print axioms xiu_keys_present
#print axioms xiu_cycle
#print axioms almVector_congr
#print axioms hour_routes_agree
#print axioms eightChar_congr
#print axioms dayDiShi_uses_sect

end Model
