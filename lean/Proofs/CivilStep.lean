/-
`Solar.NextDay`: its two month-walking loops keep the day number of the loop state, so stepping `n`
days adds `n` to the day number and lands on a valid date; the weekday follows.
-/
import Proofs.CivilJdn
-- `nextDay_spec` carries year bounds that its proof does not use
set_option linter.unusedVariables false
namespace Model

/-- the weekday advances by one per day, across the 1582 switch too -/

theorem week_nextDay (s r : Solar) (n : Int) (h : r.jdn = s.jdn + n) : r.week = (s.week + n) % 7 := by
  unfold Solar.week week
  unfold Solar.jdn at h
  omega

/-- `NextDay` reopens the gap of October 1582 after walking (inverse of `comp`) -/
def uncomp (y m d : Int) : Int := if y = 1582 ∧ m = 10 ∧ d > 4 then d + 10 else d

theorem jdn_uncomp (y m d : Int) (hm1 : 1 ≤ m) (hm : m ≤ 12) (hd1 : 1 ≤ d)
    (hd : d ≤ daysOfMonth y m) :
    validYmd y m (uncomp y m d) = true ∧ jdn y m (uncomp y m d) = lin y m d := by
  have hb := daysOfMonth_bounds y m hm1 hm
  rw [validYmd_iff_step]
  unfold lin uncomp
  by_cases hO : y = 1582 ∧ m = 10
  · obtain ⟨rfl, rfl⟩ := hO
    simp [daysOfMonth] at hd
    simp [jdn_eq_step]
    repeat' split
    all_goals omega
  · have hc : ¬ (y = 1582 ∧ m = 10 ∧ d > 4) := fun h => hO ⟨h.1, h.2.1⟩
    simp only [hc, hO, if_false]
    refine ⟨⟨hm1, hm, hd1, by omega, hd⟩, jdn_lin_of_g y m d (by omega)⟩

/-- `p = (y, m, d)` is a month with an in-range (compressed) day whose linear coordinate is `L`:
what each `NextDay` loop is to deliver -/
def Lands (p : Int × Int × Int) (L : Int) : Prop :=
  1 ≤ p.2.1 ∧ p.2.1 ≤ 12 ∧ 1 ≤ p.2.2 ∧ p.2.2 ≤ daysOfMonth p.1 p.2.1 ∧ lin p.1 p.2.1 p.2.2 = L

theorem Lands.intro {y m d L : Int} (h1 : 1 ≤ m) (h2 : m ≤ 12) (h3 : 1 ≤ d)
    (h4 : d ≤ daysOfMonth y m) (h5 : lin y m d = L) : Lands (y, m, d) L :=
  ⟨h1, h2, h3, h4, h5⟩

/-- moving to the next month (`m' = m + 1`), or back from it, keeps the linear coordinate -/
theorem lin_month_step (y m m' d d' : Int) (hm1 : 1 ≤ m) (hm : m ≤ 11) (hm' : m' = m + 1)
    (hd : d' = d - daysOfMonth y m) : lin y m' d' = lin y m d := by
  subst hm' hd
  unfold lin
  have := jdn_month_succ_all y m hm1 hm
  omega

theorem lin_year_step (y y' d d' : Int) (hy : y' = y + 1) (hd : d' = d - daysOfMonth y 12) :
    lin y' 1 d' = lin y 12 d := by
  subst hy hd
  unfold lin
  have := jdn_year_succ_all y
  omega

/-- every month has at least 21 days, so `fuel` rounds dispose of `21 · fuel` days -/
theorem fwdLoop_spec (fuel : Nat) : ∀ (y m d : Int), 1 ≤ m → m ≤ 12 → 1 ≤ d →
    d ≤ 21 + 21 * (fuel : Int) → Lands (fwdLoop fuel y m d) (lin y m d) := by
  induction fuel with
  | zero =>
    intro y m d hm1 hm hd1 hf
    exact .intro hm1 hm hd1 (by have := daysOfMonth_bounds y m hm1 hm; omega) rfl
  | succ k ih =>
    intro y m d hm1 hm hd1 hf
    have hb := daysOfMonth_bounds y m hm1 hm
    unfold fwdLoop
    split
    · split
      · obtain rfl : m = 12 := by omega
        exact lin_year_step y _ d _ rfl rfl ▸ ih (y + 1) 1 _ (by omega) (by omega) (by omega) (by omega)
      · exact lin_month_step y m _ d _ hm1 (by omega) rfl rfl ▸
          ih y (m + 1) _ (by omega) (by omega) (by omega) (by omega)
    · exact .intro hm1 hm hd1 (by omega) rfl

/-- the backward loop leaves `d + n ≤ 0` behind; the day it is after is its `d` shifted by `n` -/
theorem bwdLoop_spec (fuel : Nat) : ∀ (y m d n : Int),
    1 ≤ m → m ≤ 12 → d + n ≤ daysOfMonth y m → 1 ≤ d + n + 21 * (fuel : Int) →
    Lands ((bwdLoop fuel y m d n).1, (bwdLoop fuel y m d n).2.1, (bwdLoop fuel y m d n).2.2 + n)
      (lin y m d + n) := by
  induction fuel with
  | zero =>
    intro y m d n hm1 hm hdn hf
    show Lands (y, m, d + n) _
    exact .intro hm1 hm (by omega) hdn (by unfold lin; omega)
  | succ k ih =>
    intro y m d n hm1 hm hdn hf
    unfold bwdLoop
    split
    · split
      · obtain rfl : m = 1 := by omega
        have hb := daysOfMonth_bounds (y - 1) 12 (by omega) (by omega)
        exact lin_year_step (y - 1) y (d + daysOfMonth (y - 1) 12) d (by omega) (by omega) ▸
          ih (y - 1) 12 _ n (by omega) (by omega) (by omega) (by omega)
      · have hb := daysOfMonth_bounds y (m - 1) (by omega) (by omega)
        exact lin_month_step y (m - 1) m (d + daysOfMonth y (m - 1)) d (by omega) (by omega) (by omega)
          (by omega) ▸
          ih y (m - 1) _ n (by omega) (by omega) (by omega) (by omega)
    · show Lands (y, m, d + n) _
      exact .intro hm1 hm (by omega) hdn (by unfold lin; omega)

/-- the loop part of `nextDayYmd` (result still in compressed October-1582 numbering) -/
def stepCore (y m d n : Int) : Int × Int × Int :=
  if n > 0 then fwdLoop (n.toNat + 1) y m (comp y m d + n)
  else if n < 0 then
    ((bwdLoop (n.natAbs + 1) y m (comp y m d) n).1, (bwdLoop (n.natAbs + 1) y m (comp y m d) n).2.1,
      (bwdLoop (n.natAbs + 1) y m (comp y m d) n).2.2 + n)
  else (y, m, comp y m d)

theorem nextDayYmd_eq (y m d n : Int) :
    nextDayYmd y m d n =
      ((stepCore y m d n).1, (stepCore y m d n).2.1,
        uncomp (stepCore y m d n).1 (stepCore y m d n).2.1 (stepCore y m d n).2.2) := by
  unfold nextDayYmd stepCore comp uncomp
  rfl

theorem stepCore_spec (y m d n : Int) (hv : validYmd y m d = true) :
    Lands (stepCore y m d n) (jdn y m d + n) := by
  obtain ⟨hj, hc1, hc2⟩ := jdn_comp y m d hv
  obtain ⟨hm1, hm, -⟩ := (validYmd_iff_step y m d).1 hv
  have hb := daysOfMonth_bounds y m hm1 hm
  have hl : lin y m (comp y m d + n) = jdn y m d + n := by rw [hj]; unfold lin; omega
  unfold stepCore
  split
  · exact hl ▸ fwdLoop_spec _ y m _ hm1 hm (by omega) (by omega)
  · split
    · exact hj ▸ bwdLoop_spec _ y m _ n hm1 hm (by omega) (by omega)
    · obtain rfl : n = 0 := by omega
      exact .intro hm1 hm hc1 hc2 (by omega)

theorem nextDayYmd_spec (y m d n : Int) (hv : validYmd y m d = true) :
    validYmd (nextDayYmd y m d n).1 (nextDayYmd y m d n).2.1 (nextDayYmd y m d n).2.2 = true ∧
    jdn (nextDayYmd y m d n).1 (nextDayYmd y m d n).2.1 (nextDayYmd y m d n).2.2 = jdn y m d + n := by
  rw [nextDayYmd_eq]
  obtain ⟨h1, h2, h3, h4, h5⟩ := stepCore_spec y m d n hv
  exact h5 ▸ jdn_uncomp _ _ _ h1 h2 h3 h4

theorem Solar.nextDay_eq (s : Solar) (n : Int) :
    s.nextDay n =
      newSolar (nextDayYmd s.year s.month s.day n).1 (nextDayYmd s.year s.month s.day n).2.1
        (nextDayYmd s.year s.month s.day n).2.2 s.hour s.minute s.second := rfl

/-- Stepping `n` days (either sign, any size) adds exactly `n` to the day number, yields a valid date
and keeps the time of day. No bound on the years is needed: `Int` division in the model is Euclidean,
so the month-length identities hold for every year. For years `< 1` that division differs from Go's
truncating one, which is why `nextDay_spec` names the years for which the statement carries over. -/
theorem nextDay_spec_strong (s : Solar) (n : Int) (hv : s.valid = true) :
    ∃ r, s.nextDay n = some r ∧ r.valid = true ∧ r.jdn = s.jdn + n ∧
         r.hour = s.hour ∧ r.minute = s.minute ∧ r.second = s.second := by
  unfold Solar.valid at hv
  rw [Bool.and_eq_true] at hv
  obtain ⟨hv1, hv2⟩ := hv
  obtain ⟨ha, hb⟩ := nextDayYmd_spec s.year s.month s.day n hv1
  rw [Solar.nextDay_eq]
  unfold newSolar
  simp only [ha, hv2, Bool.and_self, if_true]
  refine ⟨_, rfl, ?_, ?_, rfl, rfl, rfl⟩
  · simp only [Solar.valid, ha, hv2, Bool.and_self]
  · exact hb

/-- the two year bounds are not used (see `nextDay_spec_strong`) -/
theorem nextDay_spec (s : Solar) (n : Int) (hv : s.valid = true) (hy : 1 ≤ s.year)
    (hr : 1 ≤ (nextDayYmd s.year s.month s.day n).1) :
    ∃ r, s.nextDay n = some r ∧ r.valid = true ∧ r.jdn = s.jdn + n ∧
         r.hour = s.hour ∧ r.minute = s.minute ∧ r.second = s.second :=
  nextDay_spec_strong s n hv

end Model

#print axioms Model.nextDay_spec
#print axioms Model.nextDay_spec_strong
#print axioms Model.week_nextDay
