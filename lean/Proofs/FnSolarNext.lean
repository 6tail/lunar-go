/-
Proofs.FnSolarNext — `Solar.Next`: without the work-day flag it is `NextDay`; with it, the
generated loop is first written as a recursive function (`nx_walk`, exact for every outcome) and
then shown to return a date iff `Model.nextWorkday` does.
-/
import Proofs.FnCivil2
import Model.Holiday

namespace FnEq
open Gen.Fn

/-- the working-day flag the generated loop computes in iteration `k` from its atoms -/
def nx_flag (a1 : Int → Gen.Fn.Holiday) (a2 : Int → Bool) (a3 : Int → Int) (k : Nat) : Bool :=
  if a2 (k : Int) then !(decide (0 = a3 (k : Int)) || decide (6 = a3 (k : Int))) else (a1 (k : Int)).work

/-- The generated loop as a recursive function over model dates: `L` = remaining trip count of the
`for k in [0:fuel]`, `k` = loop index, `rest` = remaining working days. -/
def nx_walk (flag : Nat → Bool) (add : Int) : Nat → Nat → Int → Model.Solar → Except Gen.Fn.Err Model.Solar
  | 0, _, _, _ => .error .fuel
  | L + 1, k, rest, o =>
    if rest > 0 then
      match o.nextDay add with
      | none => .error .panic
      | some o' => nx_walk flag add L (k + 1) (if flag k then rest - 1 else rest) o'
    else .ok o

abbrev nx_step (fuel : Nat) (a1 : Int → Gen.Fn.Holiday) (a2 : Int → Bool) (a3 : Int → Int) (add : Int) :
    Nat → Gen.Fn.Solar × Int × Bool → Except Gen.Fn.Err (ForInStep (Gen.Fn.Solar × Int × Bool)) :=
  fun k9 __s =>
    if (!decide (__s.snd.fst > 0)) = true then pure (ForInStep.done (__s.fst, __s.snd.fst, true))
    else do
      let t11 ← calendar_Solar_NextDay fuel __s.fst add
      if a2 ↑k9 = true then
          if (decide (0 = a3 ↑k9) || decide (6 = a3 ↑k9)) = true then
            pure (ForInStep.yield (t11, __s.snd.fst, __s.snd.snd))
          else pure (ForInStep.yield (t11, __s.snd.fst - 1, __s.snd.snd))
        else do
          let t12 ← HolidayUtil_Holiday_IsWork (a1 ↑k9)
          if t12 = true then pure (ForInStep.yield (t11, __s.snd.fst - 1, __s.snd.snd))
            else pure (ForInStep.yield (t11, __s.snd.fst, __s.snd.snd))

abbrev nx_fin : Gen.Fn.Solar × Int × Bool → Except Gen.Fn.Err Gen.Fn.Solar := fun __s =>
  if (!__s.snd.snd) = true then do
      throw Err.fuel
      pure __s.fst
    else pure __s.fst

def nx_res (r : Except Gen.Fn.Err Model.Solar) : Except Gen.Fn.Err Gen.Fn.Solar :=
  match r with | .ok r => .ok (ofM r) | .error e => .error e

/-- One trip of the loop body; its three-way computation of the flag is `nx_flag`. -/
theorem nx_step_pos (fuel : Nat) (a1 : Int → Gen.Fn.Holiday) (a2 : Int → Bool) (a3 : Int → Int)
    (add : Int) (k : Nat) (o t : Gen.Fn.Solar) (rest : Int) (c : rest > 0)
    (ht : calendar_Solar_NextDay fuel o add = .ok t) :
    nx_step fuel a1 a2 a3 add k (o, rest, false) =
      .ok (.yield (t, if nx_flag a1 a2 a3 k then rest - 1 else rest, false)) := by
  simp only [nx_step, c, decide_true, Bool.not_true, Bool.false_eq_true, if_false, ht, c1_ok_bind,
    nx_flag, HolidayUtil_Holiday_IsWork, c1_pure]
  by_cases h2 : a2 (k : Int) = true
  · by_cases h3 : (decide (0 = a3 ↑k) || decide (6 = a3 ↑k)) = true <;>
      simp only [h2, h3, if_true, if_false, Bool.not_true, Bool.not_false, Bool.false_eq_true]
  · by_cases h1 : (a1 (k : Int)).work = true <;>
      simp only [h2, h1, if_true, if_false, Bool.false_eq_true]

theorem nx_walk_list (fuel : Nat) (a1 : Int → Gen.Fn.Holiday) (a2 : Int → Bool) (a3 : Int → Int) (add : Int)
    (hf : add.natAbs + 2 ≤ fuel) (L : Nat) :
    ∀ (i : Nat) (rest : Int) (o : Model.Solar), o.valid = true →
    (forIn (List.range' i L 1) (ofM o, rest, false) (nx_step fuel a1 a2 a3 add) >>= nx_fin) =
      nx_res (nx_walk (nx_flag a1 a2 a3) add L i rest o) := by
  induction L with
  | zero => intro i rest o _; rfl
  | succ L ih =>
    intro i rest o hv
    rw [List.range'_succ, List.forIn_cons]
    by_cases c : rest > 0
    · have hnd := solarNextDay_eq fuel (ofM o) add (by simpa using hv) hf
      simp only [toM_ofM] at hnd
      simp only [nx_walk, if_pos c]
      cases ho : o.nextDay add with
      | none =>
        rw [ho] at hnd
        simp only [nx_step, c, decide_true, Bool.not_true, Bool.false_eq_true, if_false, hnd,
          c1_error_bind, nx_res]
      | some o' =>
        rw [ho] at hnd
        rw [nx_step_pos fuel a1 a2 a3 add i _ _ rest c hnd, c1_ok_bind]
        exact ih (i + 1) _ o' (c2_nextDay_valid o o' add ho)
    · simp only [nx_walk, nx_step, c, decide_false, Bool.not_false, if_true, c1_pure,
        c1_ok_bind, nx_res, nx_fin, Bool.not_true, Bool.false_eq_true, if_false]

/-- the date reached from `s` after `k` single steps of `add` days (`none` = some `NextDay` panicked) -/
def nx_iter (add : Int) : Nat → Model.Solar → Option Model.Solar
  | 0, s => some s
  | k + 1, s => (s.nextDay add).bind (nx_iter add k)

theorem nx_newSolar_self (s : Gen.Fn.Solar) (hs : (toM s).valid = true) :
    Gen.Fn.calendar_NewSolar s.year s.month s.day s.hour s.minute s.second = .ok s :=
  (newSolar_eq_ite ..).trans (if_pos hs)

theorem nx_newSolar_invalid (s : Gen.Fn.Solar) (hs : ¬ (toM s).valid = true) :
    Gen.Fn.calendar_NewSolar s.year s.month s.day s.hour s.minute s.second = .error .panic :=
  (newSolar_eq_ite ..).trans (if_neg hs)

/-- EXACT behaviour of the generated `Solar.Next(days, true)` on a valid receiver, for every outcome
(result / panic / out of fuel): it is `nx_walk` started at loop index 0. -/
theorem solarNext_walk (fuel : Nat) (a1 : Int → Gen.Fn.Holiday) (a2 : Int → Bool) (a3 : Int → Int)
    (s : Gen.Fn.Solar) (days : Int) (hs : (toM s).valid = true) (hd : days ≠ 0) (hf : 3 ≤ fuel) :
    Gen.Fn.calendar_Solar_Next fuel a1 a2 a3 s days true =
      nx_res (nx_walk (nx_flag a1 a2 a3) (if days < 0 then -1 else 1) fuel 0 (days.natAbs : Int) (toM s)) := by
  have hns := nx_newSolar_self s hs
  by_cases hneg : days < 0
  · have e : (days.natAbs : Int) = -days := by omega
    rw [if_pos hneg, e, ← nx_walk_list fuel a1 a2 a3 (-1) (by simpa using hf) fuel 0 (-days) (toM s) hs]
    simp only [Gen.Fn.calendar_Solar_Next, Bool.not_true, Bool.false_eq_true, if_false, getYear_eq,
      getMonth_eq, getDay_eq, getHour_eq, getMinute_eq, getSecond_eq, c1_ok_bind, hd, hneg,
      decide_true, if_true, ne_eq, not_false_eq_true, hns, ofM_toM, c1_forIn_range]
  · have e : (days.natAbs : Int) = days := by omega
    rw [if_neg hneg, e, ← nx_walk_list fuel a1 a2 a3 1 (by simpa using hf) fuel 0 days (toM s) hs]
    simp only [Gen.Fn.calendar_Solar_Next, Bool.not_true, Bool.false_eq_true, if_false, getYear_eq,
      getMonth_eq, getDay_eq, getHour_eq, getMinute_eq, getSecond_eq, c1_ok_bind, hd, hneg,
      decide_true, decide_false, if_true, ne_eq, not_false_eq_true, hns, ofM_toM, c1_forIn_range]

theorem nx_iter_succ (add : Int) (j : Nat) (o o' d : Model.Solar) (ho : o.nextDay add = some o')
    (h : nx_iter add j o' = some d) : nx_iter add (j + 1) o = some d := by
  simp only [nx_iter, ho, Option.bind_some, h]

/-- One step of the generated loop, in the shape of `nx_workLoop_step` below. -/
theorem nx_walk_step (flag : Nat → Bool) (add : Int) (L k rest : Nat) (o : Model.Solar) :
    nx_walk flag add (L + 1) k ((rest + 1 : Nat) : Int) o =
      (match o.nextDay add with
        | none => .error .panic
        | some o' => nx_walk flag add L (k + 1) ((if flag k then rest else rest + 1 : Nat) : Int) o') := by
  have hpos : ((rest + 1 : Nat) : Int) > 0 := by omega
  rw [nx_walk, if_pos hpos]
  cases o.nextDay add with
  | none => rfl
  | some o' =>
    cases flag k
    · rfl
    · simp only [if_true]; congr 1; omega

/-- One step of the model loop, with the model's own flag. -/
theorem nx_workLoop_step (st : Model.HolidayState) (add : Int) (mf rest : Nat) (o : Model.Solar) :
    Model.workLoop st add (mf + 1) (rest + 1) o =
      (match o.nextDay add with
        | none => none
        | some o' =>
          match Model.isWorkday st o' with
          | none => none
          | some w => Model.workLoop st add mf (if w then rest else rest + 1) o') := by
  rw [Model.workLoop]
  cases o.nextDay add with
  | none => rfl
  | some o' =>
    dsimp only
    cases Model.isWorkday st o' with
    | none => rfl
    | some w => cases w <;> rfl

theorem nx_walk_mono (flag : Nat → Bool) (add : Int) (L : Nat) :
    ∀ (L' k : Nat) (rest : Int) (o r : Model.Solar), L ≤ L' →
    nx_walk flag add L k rest o = .ok r → nx_walk flag add L' k rest o = .ok r := by
  induction L with
  | zero => intro L' k rest o r _ h; cases h
  | succ L ih =>
    intro L' k rest o r hL h
    obtain ⟨L', rfl⟩ : ∃ L'', L' = L'' + 1 := ⟨L' - 1, by omega⟩
    simp only [nx_walk] at h ⊢
    by_cases c : rest > 0
    · rw [if_pos c] at h ⊢
      cases ho : o.nextDay add with
      | none => rw [ho] at h; cases h
      | some o' => rw [ho] at h; exact ih _ _ _ _ _ (by omega) h
    · rw [if_neg c] at h ⊢; exact h

/-- One trip more than the model has fuel; with the flags of the visited days equal to the
model's `isWorkday`, the two step lemmas above agree. -/
theorem nx_walk_iff_work (st : Model.HolidayState) (flag : Nat → Bool) (add : Int) (mf : Nat) :
    ∀ (rest k : Nat) (o r : Model.Solar),
    (∀ j d, j < mf → nx_iter add (j + 1) o = some d → Model.isWorkday st d = some (flag (k + j))) →
    (nx_walk flag add (mf + 1) k (rest : Int) o = .ok r ↔
      Model.workLoop st add mf rest o = some r) := by
  induction mf with
  | zero =>
    intro rest k o r _
    cases rest with
    | zero => simp [nx_walk, Model.workLoop]
    | succ rest => rw [nx_walk_step]; cases o.nextDay add <;> simp [nx_walk, Model.workLoop]
  | succ mf ih =>
    intro rest k o r hat
    cases rest with
    | zero => simp [nx_walk, Model.workLoop]
    | succ rest =>
      rw [nx_walk_step, nx_workLoop_step]
      cases ho : o.nextDay add with
      | none => simp
      | some o' =>
        have hw := hat 0 o' (by omega) (by simp [nx_iter, ho])
        simp only [hw, Nat.add_zero]
        exact ih _ (k + 1) o' r fun j d hj hd => by
          rw [hat (j + 1) d (by omega) (nx_iter_succ add (j + 1) o o' d ho hd)]; congr 2; omega

/-- Without the flag the generated function IS the generated `NextDay`, -/
theorem solarNext_false (fuel : Nat) (a1 : Int → Gen.Fn.Holiday) (a2 : Int → Bool) (a3 : Int → Int)
    (s : Gen.Fn.Solar) (days : Int) :
    Gen.Fn.calendar_Solar_Next fuel a1 a2 a3 s days false = Gen.Fn.calendar_Solar_NextDay fuel s days := by
  simp only [Gen.Fn.calendar_Solar_Next, Bool.not_false, if_true]

/-- hence the model's `nextDay` on a valid receiver. -/
theorem solarNext_eq_nextDay (fuel : Nat) (a1 : Int → Gen.Fn.Holiday) (a2 : Int → Bool) (a3 : Int → Int)
    (s : Gen.Fn.Solar) (days : Int) (hs : (toM s).valid = true) (hf : days.natAbs + 2 ≤ fuel) :
    Gen.Fn.calendar_Solar_Next fuel a1 a2 a3 s days false =
      (match (toM s).nextDay days with | some r => .ok (ofM r) | none => .error .panic) := by
  rw [solarNext_false, solarNextDay_eq fuel s days hs hf]
  rfl

/-- `days = 0` with the flag: a copy of the (valid) receiver; no fuel needed. -/
theorem solarNext_zero (fuel : Nat) (a1 : Int → Gen.Fn.Holiday) (a2 : Int → Bool) (a3 : Int → Int)
    (s : Gen.Fn.Solar) (hs : (toM s).valid = true) :
    Gen.Fn.calendar_Solar_Next fuel a1 a2 a3 s 0 true = .ok s := by
  simp only [Gen.Fn.calendar_Solar_Next, Bool.not_true, Bool.false_eq_true, if_false, getYear_eq,
    getMonth_eq, getDay_eq, getHour_eq, getMinute_eq, getSecond_eq, c1_ok_bind, nx_newSolar_self s hs,
    ne_eq, not_true_eq_false, decide_false, c1_pure]

/-- outside the guard: a receiver that no constructor returns makes the copy `NewSolar(…)` panic
(the model, which copies nothing, returns the receiver for `days = 0`). -/
theorem solarNext_invalid (fuel : Nat) (a1 : Int → Gen.Fn.Holiday) (a2 : Int → Bool) (a3 : Int → Int)
    (s : Gen.Fn.Solar) (days : Int) (hs : ¬ (toM s).valid = true) :
    Gen.Fn.calendar_Solar_Next fuel a1 a2 a3 s days true = .error .panic := by
  simp only [Gen.Fn.calendar_Solar_Next, Bool.not_true, Bool.false_eq_true, if_false, getYear_eq,
    getMonth_eq, getDay_eq, getHour_eq, getMinute_eq, getSecond_eq, c1_ok_bind, nx_newSolar_invalid s hs,
    c1_error_bind]

/-- **`Solar.Next(days, true)` = `Model.nextWorkday`.**

Atoms of iteration `k` (0-based): `a1 k` = the holiday record looked up for the day reached in that
iteration, `a2 k` = "no record", `a3 k` = that day's weekday.  Hypothesis `hat` says: for every
`k < mfuel`, if `d` is the day reached from the receiver after `k+1` single steps of `±1` day
(`nx_iter`, i.e. the day the `k`-th iteration examines), then the model's `isWorkday st d` evaluates
(no panic in the lookup) and equals the flag the generated code computes from the atoms.

Fuel: the model walks at most `mfuel` days; the generated loop needs one more trip to observe
`rest ≤ 0`, and each inner `NextDay(±1)` needs fuel 3. -/
theorem solarNext_eq (fuel mfuel : Nat) (st : Model.HolidayState)
    (a1 : Int → Gen.Fn.Holiday) (a2 : Int → Bool) (a3 : Int → Int)
    (s : Gen.Fn.Solar) (days : Int) (r : Model.Solar)
    (hs : (toM s).valid = true) (hf1 : mfuel + 1 ≤ fuel) (hf2 : 3 ≤ fuel)
    (hat : ∀ (k : Nat) (d : Model.Solar), k < mfuel →
      nx_iter (if days < 0 then -1 else 1) (k + 1) (toM s) = some d →
      Model.isWorkday st d =
        some (if a2 (k : Int) then !(decide (0 = a3 (k : Int)) || decide (6 = a3 (k : Int)))
              else (a1 (k : Int)).work))
    (hm : Model.nextWorkday st (toM s) days mfuel = some r) :
    Gen.Fn.calendar_Solar_Next fuel a1 a2 a3 s days true = .ok (ofM r) := by
  by_cases hd : days = 0
  · subst hd
    simp only [Model.nextWorkday, if_true] at hm
    injection hm with hm; subst hm
    simpa using solarNext_zero fuel a1 a2 a3 s hs
  · rw [solarNext_walk fuel a1 a2 a3 s days hs hd hf2]
    simp only [Model.nextWorkday, if_neg hd] at hm
    rw [nx_walk_mono _ _ _ _ _ _ _ _ hf1 ((nx_walk_iff_work st (nx_flag a1 a2 a3) _ mfuel _ 0 _ r
      (by intro j d hj hd; simpa [nx_flag] using hat j d hj hd)).2 hm)]
    rfl

/-- The exact form (model fuel = generated fuel − 1): the generated function returns `r` iff the
model does.  (When the model returns `none`, the generated function returns an error:
`.panic` if a `NextDay` panicked, `.fuel` otherwise — see `solarNext_walk`.) -/
theorem solarNext_ok_iff (fuel : Nat) (st : Model.HolidayState)
    (a1 : Int → Gen.Fn.Holiday) (a2 : Int → Bool) (a3 : Int → Int)
    (s : Gen.Fn.Solar) (days : Int) (r : Model.Solar)
    (hs : (toM s).valid = true) (hf2 : 3 ≤ fuel)
    (hat : ∀ (k : Nat) (d : Model.Solar), k + 1 < fuel →
      nx_iter (if days < 0 then -1 else 1) (k + 1) (toM s) = some d →
      Model.isWorkday st d =
        some (if a2 (k : Int) then !(decide (0 = a3 (k : Int)) || decide (6 = a3 (k : Int)))
              else (a1 (k : Int)).work)) :
    Gen.Fn.calendar_Solar_Next fuel a1 a2 a3 s days true = .ok (ofM r) ↔
      Model.nextWorkday st (toM s) days (fuel - 1) = some r := by
  constructor
  · intro h
    by_cases hd : days = 0
    · subst hd
      rw [solarNext_zero fuel a1 a2 a3 s hs] at h
      injection h with h
      have : toM s = r := by rw [h]; rfl
      simp [Model.nextWorkday, this]
    · rw [solarNext_walk fuel a1 a2 a3 s days hs hd hf2] at h
      simp only [Model.nextWorkday, if_neg hd]
      obtain ⟨mf, rfl⟩ : ∃ mf, fuel = mf + 1 := ⟨fuel - 1, by omega⟩
      refine (nx_walk_iff_work st (nx_flag a1 a2 a3) _ mf days.natAbs 0 (toM s) r
        (by intro j d hj hd; simpa [nx_flag] using hat j d (by omega) hd)).1 ?_
      revert h
      cases nx_walk (nx_flag a1 a2 a3) (if days < 0 then -1 else 1) (mf + 1) 0 (days.natAbs : Int) (toM s) with
      | error e => intro h; cases h
      | ok r' => intro h; simp only [nx_res] at h; injection h with h; rw [ofM_inj h]
  · intro h
    exact solarNext_eq fuel (fuel - 1) st a1 a2 a3 s days r hs (by omega) hf2
      (fun k d hk => hat k d (by omega)) h


end FnEq
