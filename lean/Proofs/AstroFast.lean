/-
Proofs.AstroFast — the checks of `Model/AstroWF.lean` restated over `Nat`, directly on the packed
40-bit records, so that the kernel evaluates them with its GMP primitives (`Nat.ble`, `Nat.beq`,
`+ * / % >>>` on literals) instead of unfolding `Int` arithmetic and `Decidable` instances.
`checkBlock_of_fast` proves once that the restated checker implies `checkBlock`; the generated
obligations of `Gen/AstroK` evaluate `fastCheckBlock` and apply it.

Each `xB` is the twin of the checker `x`, with a lemma `x_of : xB … = true → x … = true` or an
equation `xB_eq`. Records stay packed: `monthOf`/`stampOf` say what a word decodes to.

The definitions evaluated most often (`field`, `words`, `jdnB`, `stampB`, `termGapB`) spell their
arithmetic `Nat.add`, `Nat.mod`, …: the kernel computes these at once on literals, whereas `+`, `%`, …
first unfold through `HAdd.hAdd`, `instHAdd`, `Nat.instAdd`, four times the work per operation.
-/
import Model.AstroWF
namespace Model

theorem all_map_of {α β : Type} {pB : α → Bool} {p : β → Bool} {g : α → β} {l : List α}
    (hp : ∀ a ∈ l, pB a = true → p (g a) = true) (h : l.all pB = true) : (l.map g).all p = true := by
  rw [List.all_map, List.all_eq_true]
  exact fun a ha => hp a ha (List.all_eq_true.1 h a ha)

theorem allAdj_map {α β : Type} {fB : α → α → Bool} {f : β → β → Bool} {g : α → β} :
    ∀ {l : List α}, (∀ a ∈ l, ∀ b ∈ l, fB a b = true → f (g a) (g b) = true) →
      allAdj fB l = true → allAdj f (l.map g) = true
  | [], _, _ => rfl
  | [_], _, _ => rfl
  | a :: b :: r, hf, h => by
    simp only [allAdj, Bool.and_eq_true, List.map_cons] at h ⊢
    exact ⟨hf a (by simp) b (by simp) h.1,
      allAdj_map (l := b :: r) (fun a ha b hb => hf a (List.mem_cons_of_mem _ ha) b (List.mem_cons_of_mem _ hb)) h.2⟩

/-- `jdn` of year `y1 - 1`. Years are kept shifted by one throughout: the tables of lunar year 0
reach back into year −1 (its December months, the winter solstice that opens its term table). -/
def jdnB (y1 m d : Nat) : Nat :=
  let yy := cond (Nat.ble m 2) (y1.add 4714) (y1.add 4715)
  let mm := cond (Nat.ble m 2) (m.add 13) (m.add 1)
  let e := (((Nat.mul 1461 yy).div 4).add ((Nat.mul 306001 mm).div 10000)).add d
  let c := (yy.add 84).div 100
  cond (Nat.ble 589201 (((y1.mul 372).add (m.mul 31)).add d)) ((e.add (c.div 4)).sub (c.add 1486)) (e.sub 1524)

theorem jdnB_def (y1 m d : Nat) : jdnB y1 m d =
    (let yy := if m ≤ 2 then y1 + 4714 else y1 + 4715
     let mm := if m ≤ 2 then m + 13 else m + 1
     let e := (1461 * yy) / 4 + (306001 * mm) / 10000 + d
     let c := (yy + 84) / 100
     if 589201 ≤ y1 * 372 + m * 31 + d then e + c / 4 - (c + 1486) else e - 1524) := by
  simp only [← Nat.ble_eq, ← Bool.cond_eq_ite]
  rfl

theorem jdnB_eq (y1 m d : Nat) : (jdnB y1 m d : Int) = jdn (y1 - 1) m d := by
  rw [jdnB_def]
  unfold jdn
  simp only [decide_eq_true_eq, ge_iff_le]
  have hg : 589201 ≤ y1 * 372 + m * 31 + d ↔ 588829 ≤ ((y1 : Int) - 1) * 372 + m * 31 + d := by omega
  simp only [hg]
  -- `omega` does not identify two spellings of one quotient: the numerators are rewritten to the
  -- casts it will produce, and h3, h4 relate the century terms
  by_cases hm : m ≤ 2
  · have hm' : (m : Int) ≤ 2 := by omega
    simp only [hm, hm', if_true]
    rw [show (1461 * ((y1 : Int) - 1 - 1 + 4716)) = ((1461 * (y1 + 4714) : Nat) : Int) by omega,
      show (306001 * ((m : Int) + 12 + 1)) = ((306001 * (m + 13) : Nat) : Int) by omega]
    split
    · have h3 : ((y1 : Int) - 1 - 1) / 100 = (((y1 + 4714 + 84) / 100 : Nat) : Int) - 48 := by omega
      have h4 : ((y1 : Int) - 1 - 1) / 100 / 4 = (((y1 + 4714 + 84) / 100 / 4 : Nat) : Int) - 12 := by omega
      omega
    · omega
  · have hm' : ¬(m : Int) ≤ 2 := by omega
    simp only [hm, hm', if_false]
    rw [show (1461 * ((y1 : Int) - 1 + 4716)) = ((1461 * (y1 + 4715) : Nat) : Int) by omega,
      show (306001 * ((m : Int) + 1)) = ((306001 * (m + 1) : Nat) : Int) by omega]
    split
    · have h3 : ((y1 : Int) - 1) / 100 = (((y1 + 4715 + 84) / 100 : Nat) : Int) - 48 := by omega
      have h4 : ((y1 : Int) - 1) / 100 / 4 = (((y1 + 4715 + 84) / 100 / 4 : Nat) : Int) - 12 := by omega
      omega
    · omega

theorem jdnB_jan1 (y : Nat) : (jdnB (y + 1) 1 1 : Int) = jdn y 1 1 := by
  rw [jdnB_eq, Int.natCast_add]; simp only [Int.cast_ofNat_Int, Int.add_sub_cancel]

theorem jdnB_dec31 (y : Nat) : (jdnB (y + 1) 12 31 : Int) = jdn y 12 31 := by
  rw [jdnB_eq, Int.natCast_add]; simp only [Int.cast_ofNat_Int, Int.add_sub_cancel]

def leapB (y1 : Nat) : Bool :=
  cond (Nat.blt y1 1601) (Nat.beq ((y1 - 1) % 4) 0)
    ((Nat.beq ((y1 - 1) % 4) 0 && !Nat.beq ((y1 - 1) % 100) 0) || Nat.beq ((y1 - 1) % 400) 0)

theorem leapB_eq (y1 : Nat) (h : 1 ≤ y1) : leapB y1 = isLeapYear (y1 - 1) := by
  unfold leapB isLeapYear
  rw [Bool.eq_iff_iff]
  simp only [Bool.cond_eq_ite, Nat.blt_eq]
  split <;> split <;>
    simp only [Bool.or_eq_true, Bool.and_eq_true, Bool.not_eq_true', Bool.eq_false_iff, Nat.beq_eq, beq_iff_eq,
      bne_iff_ne, ne_eq] <;> omega

/-- `daysOfMonth` outside October 1582 -/
def monthDaysB (y1 m : Nat) : Nat :=
  cond (Nat.beq m 2) (cond (leapB y1) 29 28) (30 + (m + m / 8) % 2)

theorem monthDaysB_ge (y1 m : Nat) : 28 ≤ monthDaysB y1 m := by
  unfold monthDaysB
  cases Nat.beq m 2 <;> cases leapB y1 <;> simp only [cond_true, cond_false] <;> omega

theorem monthDaysB_eq (y1 m : Nat) (hy : 1 ≤ y1) (h1 : 1 ≤ m) (h12 : m ≤ 12) (h : ¬(y1 = 1583 ∧ m = 10)) :
    (monthDaysB y1 m : Int) = daysOfMonth (y1 - 1) m := by
  have h' : ¬((y1 : Int) - 1 = 1582 ∧ (m : Int) = 10) := by omega
  have hm : m = 1 ∨ m = 2 ∨ m = 3 ∨ m = 4 ∨ m = 5 ∨ m = 6 ∨ m = 7 ∨ m = 8 ∨ m = 9 ∨ m = 10 ∨
      m = 11 ∨ m = 12 := by omega
  unfold monthDaysB daysOfMonth
  rw [if_neg h', leapB_eq y1 hy]
  rcases hm with rfl | rfl | rfl | rfl | rfl | rfl | rfl | rfl | rfl | rfl | rfl | rfl <;>
    cases isLeapYear (y1 - 1) <;> rfl

def inRangeB (y : Nat) : Bool := Nat.ble 1 y && Nat.ble y 9998

theorem inRangeB_eq (y : Nat) : inRangeB y = termsInRange y := by
  unfold inRangeB termsInRange
  rw [Bool.eq_iff_iff]
  simp only [Bool.and_eq_true, decide_eq_true_eq, Nat.ble_eq]
  omega

def reformB (y : Nat) : Bool := (Nat.ble 8 y && Nat.ble y 23) || (Nat.ble 236 y && Nat.ble y 240)

theorem reformB_eq (y : Nat) : reformB y = isReformYear y := by
  unfold reformB isReformYear
  rw [Bool.eq_iff_iff]
  simp only [Bool.and_eq_true, Bool.or_eq_true, decide_eq_true_eq, Nat.ble_eq]
  omega

/-- `bitsAt`, in the kernel's spelling -/
def field (r off width : Nat) : Nat := (r.shiftRight off).mod (Nat.pow 2 width)

theorem field_eq (r off width : Nat) : field r off width = (r >>> off) % 2 ^ width := rfl

def words : Nat → Nat → List Nat
  | 0, _ => []
  | n + 1, a => field a 0 40 :: words n (a.shiftRight 40)

theorem words_zero (a : Nat) : words 0 a = [] := rfl
theorem words_succ (n a : Nat) : words (n + 1) a = a % 2 ^ 40 :: words n (a >>> 40) := rfl

theorem words_eq (n a : Nat) : words n a = (List.range n).map fun i => bitsAt a (40 * i) 40 := by
  induction n generalizing a with
  | zero => rfl
  | succ n ih =>
    rw [words_succ, ih, List.range_succ_eq_map, List.map_cons, List.map_map]
    congr 1
    apply List.map_congr_left
    intro i _
    simp only [bitsAt, Function.comp, ← Nat.shiftRight_add]
    congr 2
    omega

theorem words_length (n a : Nat) : (words n a).length = n := by
  rw [words_eq, List.length_map, List.length_range]

theorem words_lt {n a r : Nat} (h : r ∈ words n a) : r < 2 ^ 40 := by
  rw [words_eq, List.mem_map] at h
  obtain ⟨i, _, rfl⟩ := h
  exact Nat.mod_lt _ (by omega)

theorem words_mod : ∀ n x : Nat, words n (x % 2 ^ (40 * n)) = words n x
  | 0, _ => rfl
  | n + 1, x => by
    have hp : 2 ^ (40 * (n + 1)) = 2 ^ 40 * 2 ^ (40 * n) := by rw [← Nat.pow_add]; congr 1; omega
    rw [words_succ, words_succ, Nat.shiftRight_eq_div_pow, Nat.shiftRight_eq_div_pow, hp,
      Nat.mod_mul_right_div_self, Nat.mod_mul_right_mod, words_mod n]

theorem shr_div (a i j : Nat) : (a >>> i) / 2 ^ j = a >>> (i + j) := by
  rw [Nat.shiftRight_add, Nat.shiftRight_eq_div_pow (a >>> i) j]

def sSec (r : Nat) : Nat := field r 0 6
def sMin (r : Nat) : Nat := field r 6 6
def sHour (r : Nat) : Nat := field r 12 5
def sDay (r : Nat) : Nat := field r 17 5
def sMonth (r : Nat) : Nat := field r 22 4
/-- year + 1 -/
def sYear1 (r : Nat) : Nat := field r 26 14

def stampOf (r : Nat) : Solar :=
  { second := sSec r, minute := sMin r, hour := sHour r, day := sDay r, month := sMonth r, year := sYear1 r - 1 }

theorem decodeStamp_eq (a k : Nat) : decodeStamp a k = stampOf (bitsAt a (600 + 40 * k) 40) := rfl

theorem terms_eq (y : Int) (p : Nat × Nat) : (decodeYear y p).terms = (words 31 (p.1 >>> 600)).map stampOf := by
  rw [words_eq, List.map_map]
  apply List.map_congr_left
  intro k _
  simp only [decodeStamp_eq, bitsAt, Function.comp, ← Nat.shiftRight_add]

def stampValidB (r : Nat) : Bool :=
  Nat.ble 1 (sYear1 r) && Nat.ble (sYear1 r) 10000 && Nat.ble 1 (sMonth r) && Nat.ble (sMonth r) 12 &&
  Nat.ble 1 (sDay r) &&
  cond (Nat.beq (sYear1 r) 1583 && Nat.beq (sMonth r) 10) (Nat.ble (sDay r) 4 || Nat.ble 15 (sDay r))
    -- a term rarely falls after the 28th: the month length is seldom evaluated
    (Nat.ble (sDay r) 28 || Nat.ble (sDay r) (monthDaysB (sYear1 r) (sMonth r))) &&
  Nat.ble (sHour r) 23 && Nat.ble (sMin r) 59 && Nat.ble (sSec r) 59

theorem stampValid_of (r : Nat) (h : stampValidB r = true) : stampValid (stampOf r) = true := by
  unfold stampValidB at h
  simp only [Bool.and_eq_true, Nat.ble_eq] at h
  obtain ⟨⟨⟨⟨⟨⟨⟨⟨hy1, hy2⟩, hm1⟩, hm2⟩, hd1⟩, hd⟩, hh⟩, hmi⟩, hs⟩ := h
  have hd31 : sDay r ≤ 31 := by rw [sDay, field_eq]; omega
  unfold stampValid Solar.valid validYmd validHms stampOf
  simp only [Bool.and_eq_true, decide_eq_true_eq]
  refine ⟨⟨⟨⟨by omega, ?_⟩, by omega⟩, by omega⟩, by omega⟩
  rw [Bool.cond_eq_ite] at hd
  split at hd
  · rename_i hc
    simp only [Bool.and_eq_true, Nat.beq_eq] at hc
    rw [if_pos (by omega)]
    simp only [Bool.or_eq_true, Nat.ble_eq] at hd
    simp only [Bool.not_eq_true', Bool.and_eq_false_iff, decide_eq_false_iff_not]
    omega
  · rename_i hc
    simp only [Bool.and_eq_true, Nat.beq_eq] at hc
    rw [if_neg (by omega), ← monthDaysB_eq _ _ hy1 hm1 hm2 hc]
    simp only [Bool.or_eq_true, Nat.ble_eq] at hd
    have := monthDaysB_ge (sYear1 r) (sMonth r)
    simp only [decide_eq_true_eq]
    omega

def sJdn (r : Nat) : Nat := jdnB (sYear1 r) (sMonth r) (sDay r)

theorem sJdn_eq (r : Nat) : (sJdn r : Int) = (stampOf r).jdn := jdnB_eq _ _ _

def stampB (r : Nat) : Nat :=
  ((((sJdn r).mul 86400).add ((sHour r).mul 3600)).add ((sMin r).mul 60)).add (sSec r)

theorem stampB_eq (r : Nat) : (stampB r : Int) = (stampOf r).stamp := by
  unfold stampB Solar.stamp Solar.secOfDay
  rw [← sJdn_eq]
  simp only [stampOf, Nat.add_eq, Nat.mul_eq]
  omega

/-- one digit of a mixed-radix comparison: if `k` orders like `x / B`, then `k * 100 + x % B` orders like `x` -/
theorem lex_step {x y : Nat} {kx ky : Int} (B : Nat) (hB : 0 < B) (hB' : B ≤ 100)
    (h : (x / B < y / B → kx < ky) ∧ (x / B = y / B → kx = ky)) :
    (x < y → kx * 100 + ↑(x % B) < ky * 100 + ↑(y % B)) ∧
    (x = y → kx * 100 + ↑(x % B) = ky * 100 + ↑(y % B)) := by
  refine ⟨fun hxy => ?_, fun hxy => by subst hxy; rw [h.2 rfl]⟩
  have hx := Nat.div_add_mod x B
  have hy := Nat.div_add_mod y B
  have hxB := Nat.mod_lt x hB
  have hyB := Nat.mod_lt y hB
  rcases Nat.lt_or_ge (x / B) (y / B) with hlt | hge
  · have := h.1 hlt
    omega
  · have heq : x / B = y / B := Nat.le_antisymm (Nat.div_le_div_right (Nat.le_of_lt hxy)) hge
    have := h.2 heq
    rw [heq] at hx
    omega

/-- a stamp packs its fields most significant first, each narrower than two decimal digits, so
packed stamps order like `Solar.key` and the checker compares the words themselves -/
theorem key_lt_of_lt (a b : Nat) (ha : a < 2 ^ 40) (hb : b < 2 ^ 40) (h : a < b) :
    (stampOf a).key < (stampOf b).key := by
  have hy (r : Nat) (hr : r < 2 ^ 40) : sYear1 r = r >>> 26 := by
    rw [sYear1, field_eq, Nat.shiftRight_eq_div_pow]; omega
  have s5 : (a >>> 26 < b >>> 26 → ((a >>> 26 : Nat) : Int) - 1 < (b >>> 26 : Nat) - 1) ∧
      (a >>> 26 = b >>> 26 → ((a >>> 26 : Nat) : Int) - 1 = (b >>> 26 : Nat) - 1) := ⟨by omega, by omega⟩
  have s4 := lex_step (x := a >>> 22) (y := b >>> 22) (2 ^ 4) (by omega) (by omega) (by simpa only [shr_div] using s5)
  have s3 := lex_step (x := a >>> 17) (y := b >>> 17) (2 ^ 5) (by omega) (by omega) (by simpa only [shr_div] using s4)
  have s2 := lex_step (x := a >>> 12) (y := b >>> 12) (2 ^ 5) (by omega) (by omega) (by simpa only [shr_div] using s3)
  have s1 := lex_step (x := a >>> 6) (y := b >>> 6) (2 ^ 6) (by omega) (by omega) (by simpa only [shr_div] using s2)
  have s0 := lex_step (x := a >>> 0) (y := b >>> 0) (2 ^ 6) (by omega) (by omega) (by simpa only [shr_div] using s1)
  have := s0.1 h
  unfold Solar.key stampOf
  rw [hy a ha, hy b hb]
  exact this

def termGapB (a b : Nat) : Bool :=
  Nat.blt a b && Nat.ble ((stampB a).add 1261440) (stampB b) && Nat.ble (stampB b) ((stampB a).add 1365120)

def stampsB : List Nat → Bool
  | [] => true
  | [a] => stampValidB a
  | a :: b :: rest => stampValidB a && termGapB a b && stampsB (b :: rest)

theorem stampsB_spec : ∀ ts : List Nat, stampsB ts = true → ts.all stampValidB = true ∧ allAdj termGapB ts = true
  | [], _ => ⟨rfl, rfl⟩
  | [a], h => ⟨by simpa [stampsB] using h, rfl⟩
  | a :: b :: rest, h => by
    simp only [stampsB, Bool.and_eq_true] at h
    have ih := stampsB_spec (b :: rest) h.2
    rw [List.all_cons, allAdj, Bool.and_eq_true, Bool.and_eq_true]
    exact ⟨⟨h.1.1, ih.1⟩, h.1.2, ih.2⟩

def termsB (y : Nat) (ts : List Nat) : Bool :=
  stampsB ts &&
  (match ts[1]?, ts[4]? with
   | some dz, some lc => Nat.beq (sYear1 dz) y && Nat.beq (sMonth dz) 12 && Nat.beq (sYear1 lc) (y + 1)
   | _, _ => false)

theorem termsOk_of (y : Nat) (ts : List Nat) (hl : ts.length = 31) (hlt : ∀ r ∈ ts, r < 2 ^ 40)
    (h : termsB y ts = true) : termsOk y (ts.map stampOf) = true := by
  unfold termsB at h
  unfold termsOk
  simp only [Bool.and_eq_true] at h ⊢
  obtain ⟨hv, hg⟩ := stampsB_spec ts h.1
  refine ⟨⟨⟨by simp [hl], all_map_of (fun r _ => stampValid_of r) hv⟩,
    allAdj_map (fun a ha b hb hab => ?_) hg⟩, ?_⟩
  · unfold termGapB at hab
    simp only [Bool.and_eq_true, Nat.blt_eq, Nat.ble_eq, Nat.add_eq] at hab
    have := key_lt_of_lt a b (hlt a ha) (hlt b hb) hab.1.1
    simp only [Bool.and_eq_true, decide_eq_true_eq, ← stampB_eq]
    omega
  · have hm := h.2
    rw [List.getElem?_map, List.getElem?_map]
    cases h1 : ts[1]? <;> cases h4 : ts[4]? <;> simp only [h1, h4, Option.map] at hm ⊢ <;> try exact hm
    simp only [Bool.and_eq_true, Nat.beq_eq] at hm
    simp only [stampOf, Bool.and_eq_true, beq_iff_eq]
    omega

/-- stamps 24..30 of one year's table and 0..6 of the next are one 280-bit field each -/
def termsSharedB (a a' : Nat) : Bool :=
  Nat.beq ((a >>> 1560) % 2 ^ (40 * 7)) ((a' >>> 600) % 2 ^ (40 * 7))

theorem termsShared_of (a a' : Nat) (h : termsSharedB a a' = true) :
    termsShared ((words 31 (a >>> 600)).map stampOf) ((words 31 (a' >>> 600)).map stampOf) = true := by
  have h7 : words 7 (a >>> 1560) = words 7 (a' >>> 600) := by
    rw [termsSharedB, Nat.beq_eq] at h
    rw [← words_mod, h, words_mod]
  haveI : ReflBEq Solar := ⟨fun {s} => by cases s; simp [BEq.beq, instBEqSolar.beq]⟩
  simp only [words_succ, words_zero, List.cons.injEq, ← Nat.shiftRight_add, Nat.reduceAdd, and_true] at h7
  obtain ⟨e0, e1, e2, e3, e4, e5, e6⟩ := h7
  simp only [termsShared, words_succ, words_zero, List.map, listDrop, listTake, List.head?, ← Nat.shiftRight_add,
    Nat.reduceAdd, List.getElem?_cons_succ, List.getElem?_cons_zero, e0, e1, e2, e3, e4, e5, e6, BEq.rfl,
    Bool.and_self]

def mFirst (r : Nat) : Nat := field r 0 23
def mDays (r : Nat) : Nat := field r 23 5
def mIndex (r : Nat) : Nat := field r 28 5
/-- month + 13 (leap months are negative) -/
def mMonth (r : Nat) : Nat := field r 33 5
/-- year − (y − 1), in the table of lunar year `y` -/
def mYoff (r : Nat) : Nat := field r 38 2
def mLabel (r : Nat) : Nat := field r 33 7
def mSpan (r : Nat) : Nat := field r 0 28

def monthOf (y : Int) (r : Nat) : MonthRec :=
  { first := mFirst r, dayCount := mDays r, index := mIndex r, month := mMonth r - 13, year := mYoff r + (y - 1) }

theorem months_eq (y : Int) (p : Nat × Nat) : (decodeYear y p).months = (words 15 p.1).map (monthOf y) := by
  rw [words_eq, List.map_map]; rfl

theorem mLabel_eq (r : Nat) : mLabel r = 32 * mYoff r + mMonth r := by
  simp only [mLabel, mYoff, mMonth, field_eq]
  rw [← shr_div r 33 5]
  omega

theorem mMonth_lt (r : Nat) : mMonth r < 32 := Nat.mod_lt _ (by decide)

theorem mLabel_eq_iff (q k m : Nat) (hm : m < 32) : mLabel q = 32 * k + m ↔ mYoff q = k ∧ mMonth q = m := by
  simp only [mLabel, mYoff, mMonth, field_eq]
  rw [← shr_div q 33 5]
  omega

theorem mSpan_eq_iff (q r : Nat) : mSpan q = mSpan r ↔ mFirst q = mFirst r ∧ mDays q = mDays r := by
  simp only [mSpan, mDays, mFirst, field_eq, Nat.shiftRight_zero]
  rw [Nat.shiftRight_eq_div_pow, Nat.shiftRight_eq_div_pow]
  omega

def overlapsB (y r : Nat) : Bool :=
  Nat.blt (jdnB (y + 1) 1 1) (mFirst r + mDays r) && Nat.ble (mFirst r) (jdnB (y + 1) 12 31)

theorem overlapsB_eq (c : Nat) (y : Int) (r : Nat) : overlapsB c r = overlapsCivil c (monthOf y r) := by
  unfold overlapsB overlapsCivil
  rw [← jdnB_jan1, ← jdnB_dec31, Bool.eq_iff_iff]
  simp only [Bool.and_eq_true, decide_eq_true_eq, Nat.blt_eq, Nat.ble_eq]
  simp only [monthOf]
  omega

def monthCoreB (r : Nat) : Bool :=
  Nat.ble 28 (mDays r) && Nat.ble (mDays r) 30 && Nat.ble (mYoff r) 2 && !Nat.beq (mMonth r) 13 &&
  Nat.ble 1 (mMonth r) && Nat.ble (mMonth r) 25 && Nat.ble 1 (mIndex r) && Nat.ble (mIndex r) 15 &&
  Nat.ble 1721000 (mFirst r)

def monthAdjB (a b : Nat) : Bool :=
  Nat.beq (mFirst b) (mFirst a + mDays a) && Nat.ble (mYoff a) (mYoff b)

def chainB (jEnd : Nat) : List Nat → Bool
  | [] => false
  | [l] => Nat.blt jEnd (mFirst l + mDays l)
  | a :: b :: rest => monthAdjB a b && chainB jEnd (b :: rest)

theorem chainB_spec (jEnd : Nat) : ∀ ms : List Nat, chainB jEnd ms = true →
    allAdj monthAdjB ms = true ∧ ∃ l, ms.getLast? = some l ∧ jEnd < mFirst l + mDays l
  | [], h => by simp [chainB] at h
  | [l], h => ⟨rfl, l, rfl, by simpa [chainB] using h⟩
  | a :: b :: rest, h => by
    simp only [chainB, Bool.and_eq_true] at h
    have ih := chainB_spec jEnd (b :: rest) h.2
    simp only [allAdj, Bool.and_eq_true, List.getLast?_cons_cons]
    exact ⟨⟨h.1, ih.1⟩, ih.2⟩

/-- no label occurs twice, and none is in the bit set `seen` (one pass instead of all pairs) -/
def freshB : List Nat → Nat → Bool
  | [], _ => true
  | r :: rest, seen => !seen.testBit (mLabel r) && freshB rest (seen ||| 2 ^ mLabel r)

theorem freshB_spec (y : Int) : ∀ (ms : List Nat) (seen : Nat), freshB ms seen = true →
    (∀ r ∈ ms, seen.testBit (mLabel r) = false) ∧ labelsDistinct (ms.map (monthOf y)) = true
  | [], _, _ => ⟨by simp, rfl⟩
  | r :: rest, seen, h => by
    simp only [freshB, Bool.and_eq_true, Bool.not_eq_true'] at h
    have ih := freshB_spec y rest _ h.2
    simp only [Nat.testBit_or, Nat.testBit_two_pow, Bool.or_eq_false_iff, decide_eq_false_iff_not] at ih
    refine ⟨?_, ?_⟩
    · intro q hq
      rcases List.mem_cons.1 hq with rfl | hq
      · exact h.1
      · exact (ih.1 q hq).1
    · simp only [List.map_cons, labelsDistinct, Bool.and_eq_true, ih.2, and_true]
      refine all_map_of (pB := fun _ => true) (fun q hq _ => ?_) (by simp)
      have hne := (ih.1 q hq).2
      rw [mLabel_eq, mLabel_eq] at hne
      simp only [monthOf, Bool.not_eq_true', Bool.and_eq_false_iff, beq_eq_false_iff_ne, ne_eq]
      omega

def monthsCoreB (y : Nat) (ms : List Nat) : Bool :=
  ms.all monthCoreB && chainB (jdnB (y + 1) 12 31) ms && freshB ms 0 &&
  (match ms.head? with
   | some h => Nat.ble (mFirst h) (jdnB (y + 1) 1 1)
   | none => false)

theorem monthsCoreOk_of (y : Nat) (ms : List Nat) (hl : ms.length = 15) (h : monthsCoreB y ms = true) :
    monthsCoreOk y (ms.map (monthOf y)) = true := by
  unfold monthsCoreB at h
  unfold monthsCoreOk
  simp only [Bool.and_eq_true] at h ⊢
  obtain ⟨⟨⟨hc, hch⟩, hf⟩, hh⟩ := h
  obtain ⟨hadj, l, hl', hend⟩ := chainB_spec _ _ hch
  refine ⟨⟨⟨⟨by simp [hl], all_map_of (fun r _ hr => ?_) hc⟩, allAdj_map (fun a _ b _ hab => ?_) hadj⟩,
    (freshB_spec y ms 0 hf).2⟩, ?_⟩
  · unfold monthCoreB at hr
    simp only [Bool.and_eq_true, Bool.not_eq_true', Bool.eq_false_iff, ne_eq, Nat.ble_eq, Nat.beq_eq] at hr
    simp only [Bool.and_eq_true, Bool.or_eq_true, decide_eq_true_eq, beq_iff_eq, bne_iff_ne, ne_eq]
    simp only [monthOf]
    omega
  · unfold monthAdjB at hab
    simp only [Bool.and_eq_true, Nat.ble_eq, Nat.beq_eq] at hab
    simp only [Bool.and_eq_true, decide_eq_true_eq, beq_iff_eq]
    simp only [monthOf]
    omega
  · rw [List.head?_map, List.getLast?_map, hl']
    cases hd : ms.head? <;> simp only [hd, Option.map] at hh ⊢
    · exact hh
    · simp only [Nat.ble_eq] at hh
      have e1 := jdnB_jan1 y
      have e2 := jdnB_dec31 y
      simp only [Bool.and_eq_true, decide_eq_true_eq]
      simp only [monthOf]
      omega

def leadB (y : Nat) (ms ts : List Nat) : Bool :=
  ms.all fun r => Nat.ble (mYoff r) 1 || !overlapsB y r ||
    (inRangeB y && (match ts[4]? with | some lc => Nat.blt (sJdn lc) (mFirst r) | none => false))

theorem leadOk_of (y : Nat) (ms ts : List Nat) (ya : YearAstro) (hm : ya.months = ms.map (monthOf y))
    (ht : ya.terms = ts.map stampOf) (h : leadB y ms ts = true) : leadOk y ya = true := by
  unfold leadOk
  rw [hm, ht, List.getElem?_map]
  refine all_map_of (fun r _ hr => ?_) h
  rw [← overlapsB_eq, ← inRangeB_eq]
  simp only [Bool.or_eq_true, Bool.and_eq_true, Nat.ble_eq] at hr ⊢
  rcases hr with (hr | hr) | hr
  · refine Or.inl (Or.inr ?_)
    simp only [decide_eq_true_eq]
    simp only [monthOf]
    omega
  · exact Or.inl (Or.inl hr)
  · refine Or.inr ⟨hr.1, ?_⟩
    cases h4 : ts[4]? <;> simp only [h4, Option.map] at hr ⊢
    · exact hr.2
    · have := hr.2
      simp only [Nat.blt_eq] at this
      simp only [decide_eq_true_eq, ← sJdn_eq]
      simp only [monthOf]
      omega

/-- `inYearSeqOk` over the records of the table's own year, their day total accumulated in `s` -/
def seqB : Nat → Bool → Nat → List Nat → Bool
  | k, _, s, [] =>
    Nat.beq k 12 && ((Nat.ble 353 s && Nat.ble s 355) || (Nat.ble 383 s && Nat.ble s 385))
  | k, u, s, r :: rest =>
    cond (Nat.beq (mYoff r) 1)
      (cond (Nat.beq (mMonth r) (k + 14)) (seqB (k + 1) u (s + mDays r) rest)
        (Nat.beq (mMonth r + k) 13 && !u && Nat.ble 1 k && seqB k true (s + mDays r) rest))
      (seqB k u s rest)

theorem foldl_days (l : List MonthRec) (s : Int) :
    l.foldl (fun a r => a + r.dayCount) s = s + l.foldl (fun a r => a + r.dayCount) 0 := by
  induction l generalizing s with
  | nil => simp
  | cons r l ih => rw [List.foldl_cons, List.foldl_cons, ih, ih (0 + r.dayCount)]; omega

theorem seqB_spec (y : Int) : ∀ (ms : List Nat) (k : Nat) (u : Bool) (s : Nat), seqB k u s ms = true →
    inYearSeqOk k u ((monthsInYear (ms.map (monthOf y)) y).map (·.month)) = true ∧
    ((353 ≤ s + yearDayCount (ms.map (monthOf y)) y ∧ s + yearDayCount (ms.map (monthOf y)) y ≤ 355) ∨
     (383 ≤ s + yearDayCount (ms.map (monthOf y)) y ∧ s + yearDayCount (ms.map (monthOf y)) y ≤ 385))
  | [], k, u, s, h => by
    simp only [seqB, Bool.and_eq_true, Bool.or_eq_true, Nat.beq_eq, Nat.ble_eq] at h
    simp only [List.map_nil, monthsInYear, yearDayCount, List.filter_nil, List.foldl_nil, inYearSeqOk, beq_iff_eq]
    omega
  | r :: rest, k, u, s, h => by
    have hy : ((monthOf y r).year == y) = Nat.beq (mYoff r) 1 := by
      rw [Bool.eq_iff_iff, beq_iff_eq, Nat.beq_eq]; simp only [monthOf]; omega
    simp only [seqB, Bool.cond_eq_ite] at h
    simp only [List.map_cons, monthsInYear, yearDayCount, List.filter_cons, hy]
    split at h
    · rename_i h1
      rw [if_pos h1, List.map_cons, List.foldl_cons, foldl_days]
      split at h
      · rename_i h2
        have ih := seqB_spec y rest _ _ _ h
        simp only [Nat.beq_eq] at h2
        have hm : (monthOf y r).month = k + 1 := by simp only [monthOf]; omega
        simp only [inYearSeqOk, hm, beq_self_eq_true, if_true]
        simp only [monthsInYear, yearDayCount, Int.natCast_add, Int.cast_ofNat_Int] at ih
        refine ⟨ih.1, ?_⟩
        have := ih.2
        simp only [monthOf] at this ⊢
        omega
      · simp only [Bool.and_eq_true, Bool.not_eq_true', Nat.beq_eq, Nat.ble_eq] at h
        obtain ⟨⟨⟨h3, hu⟩, hk⟩, h⟩ := h
        have ih := seqB_spec y rest _ _ _ h
        have hm : (monthOf y r).month = -k := by simp only [monthOf]; omega
        have hne : ((-(k : Int)) == (k : Int) + 1) = false := by rw [beq_eq_false_iff_ne]; omega
        simp only [inYearSeqOk, hm, hne, hu, beq_self_eq_true, Bool.not_false, Bool.true_and,
          decide_eq_true (show (1 : Int) ≤ k by omega), if_true, Bool.false_eq_true, if_false]
        simp only [monthsInYear, yearDayCount, Int.natCast_add] at ih
        refine ⟨ih.1, ?_⟩
        have := ih.2
        simp only [monthOf] at this ⊢
        omega
    · rename_i h1
      rw [if_neg h1]
      exact seqB_spec y rest _ _ _ h

/-- an accepted in-year sequence has 12 entries, or 13 with its one leap (negative) entry: the last
conjunct of `yearStructOk` follows from the second and needs no evaluation -/
theorem inYearSeq_length : ∀ (l : List Int) (k : Int) (u : Bool), 0 ≤ k → inYearSeqOk k u l = true →
    (l.length : Int) + k = 12 + (if l.any (fun m => decide (m < 0)) then 1 else 0) ∧
    (u = true → l.any (fun m => decide (m < 0)) = false)
  | [], k, u, _, h => by
    simp only [inYearSeqOk, beq_iff_eq] at h
    simp [h]
  | m :: rest, k, u, hk, h => by
    simp only [inYearSeqOk] at h
    split at h
    · rename_i h1
      obtain ⟨ih1, ih2⟩ := inYearSeq_length rest (k + 1) u (by omega) h
      have hm : decide (m < 0) = false := by rw [beq_iff_eq] at h1; rw [decide_eq_false_iff_not]; omega
      simp only [List.any_cons, hm, Bool.false_or, List.length_cons]
      exact ⟨by omega, ih2⟩
    · split at h
      · rename_i h2
        simp only [Bool.and_eq_true, Bool.not_eq_true', beq_iff_eq, decide_eq_true_eq] at h2
        obtain ⟨ih1, ih2⟩ := inYearSeq_length rest k true hk h
        have hm : decide (m < 0) = true := by rw [decide_eq_true_eq]; omega
        rw [ih2 rfl] at ih1
        simp only [List.any_cons, hm, Bool.true_or, List.length_cons, if_true]
        simp only [Bool.false_eq_true, if_false] at ih1
        exact ⟨by omega, fun hu => by simp [hu] at h2⟩
      · exact absurd h (by simp)

theorem leapMonthOf_eq_zero (ms : List MonthRec) (y : Int) :
    (leapMonthOf ms y == 0) = !(monthsInYear ms y).any (fun r => decide (r.month < 0)) := by
  unfold leapMonthOf monthsInYear
  rw [List.any_filter]
  cases hf : ms.find? (fun r => r.year == y && decide (r.month < 0)) with
  | none =>
    rw [List.find?_eq_none] at hf
    rw [List.any_eq_false.2 hf]
    rfl
  | some r =>
    rw [List.any_eq_true.2 ⟨r, List.mem_of_find?_eq_some hf, List.find?_some hf⟩]
    have hr := List.find?_some hf
    simp only [Bool.and_eq_true, decide_eq_true_eq] at hr
    simp only [Bool.not_true, beq_eq_false_iff_ne, ne_eq]
    omega

def yearStructB (ms : List Nat) : Bool :=
  ms.all (fun r => Nat.beq (mDays r) 29 || Nat.beq (mDays r) 30) && seqB 0 false 0 ms

theorem yearStructOk_of (y : Int) (ms : List Nat) (h : yearStructB ms = true) :
    yearStructOk y (ms.map (monthOf y)) = true := by
  unfold yearStructB at h
  rw [Bool.and_eq_true] at h
  obtain ⟨hseq, hdays⟩ := seqB_spec y ms 0 false 0 h.2
  obtain ⟨hlen, -⟩ := inYearSeq_length _ _ _ (by omega) hseq
  unfold yearStructOk
  simp only [Bool.and_eq_true]
  refine ⟨⟨⟨⟨all_map_of (fun r _ hr => ?_) h.1, hseq⟩, ?_⟩, ?_⟩, ?_⟩
  · simp only [Bool.or_eq_true, Nat.beq_eq] at hr
    simp only [Bool.or_eq_true, beq_iff_eq]
    simp only [monthOf]
    omega
  · simp only [Bool.or_eq_true, Bool.and_eq_true, decide_eq_true_eq]
    omega
  · -- both sides search the same record: this conjunct holds of every table
    unfold leapMonthOf monthsInYear
    rw [List.find?_filter]
    simp only [Bool.decide_and, Bool.decide_eq_true]
    exact beq_self_eq_true _
  · rw [leapMonthOf_eq_zero, decide_eq_true_eq]
    rw [List.length_map, List.any_map] at hlen
    cases hany : (monthsInYear (ms.map (monthOf y)) y).any (fun r => decide (r.month < 0)) <;>
      simp only [Function.comp_def, hany, Bool.not_true, Bool.not_false, if_true, Bool.false_eq_true,
        if_false] at hlen ⊢ <;> omega

def yearB (y a : Nat) : Bool :=
  monthsCoreB y (words 15 a) && leadB y (words 15 a) (words 31 (a >>> 600)) &&
  (!inRangeB y || termsB y (words 31 (a >>> 600))) &&
  (reformB y || yearStructB (words 15 a))

theorem yearOk_of (y : Nat) (p : Nat × Nat) (h : yearB y p.1 = true) : yearOk y (decodeYear y p) = true := by
  unfold yearB at h
  unfold yearOk
  simp only [Bool.and_eq_true, Bool.or_eq_true, Bool.not_eq_true'] at h ⊢
  obtain ⟨⟨⟨hc, hl⟩, ht⟩, hs⟩ := h
  rw [← inRangeB_eq, ← reformB_eq]
  refine ⟨⟨⟨?_, leadOk_of y _ _ _ (months_eq _ p) (terms_eq _ p) hl⟩, ht.imp id fun ht => ?_⟩,
    hs.imp id fun hs => ?_⟩
  · rw [months_eq]; exact monthsCoreOk_of y _ (words_length _ _) hc
  · rw [terms_eq]; exact termsOk_of y _ (words_length _ _) (fun r => words_lt) ht
  · rw [months_eq]; exact yearStructOk_of y _ hs

/-- what two tables must agree on for a month they share (`index` is table-relative) -/
def MonthRec.core (r : MonthRec) : Int × Int × Int × Int := (r.year, r.month, r.first, r.dayCount)

open MonthRec (core)

theorem monthsInYear_core (l : List MonthRec) (Y : Int) :
    (monthsInYear l Y).map core = (l.map core).filter (fun c => c.1 == Y) := by
  rw [List.filter_map]; rfl

theorem isPrefixOf'_of_core : ∀ (l m : List MonthRec) (t : List (Int × Int × Int × Int)),
    m.map core = l.map core ++ t → isPrefixOf' l m = true
  | [], _, _, _ => by simp [isPrefixOf']
  | _ :: _, [], _, h => by simp at h
  | a :: as, b :: bs, t, h => by
    simp only [List.map_cons, List.cons_append, List.cons.injEq, core, Prod.mk.injEq] at h
    obtain ⟨⟨h1, h2, h3, h4⟩, h⟩ := h
    simp only [isPrefixOf', Bool.and_eq_true, beq_iff_eq]
    exact ⟨⟨⟨⟨h1.symm, h2.symm⟩, h3.symm⟩, h4.symm⟩, isPrefixOf'_of_core as bs t h⟩

theorem findMonth_of_distinct : ∀ (l : List MonthRec) (q : MonthRec), labelsDistinct l = true → q ∈ l →
    findMonth l q.year q.month = some q
  | a :: rest, q, hd, hq => by
    simp only [labelsDistinct, Bool.and_eq_true] at hd
    unfold findMonth
    rw [List.find?_cons]
    rcases List.mem_cons.1 hq with rfl | hq
    · simp
    · have := List.all_eq_true.1 hd.1 q hq
      simp only [Bool.not_eq_true', Bool.and_eq_false_iff, beq_eq_false_iff_ne, ne_eq] at this
      have hf : (a.year == q.year && a.month == q.month) = false := by
        simp only [Bool.and_eq_false_iff, beq_eq_false_iff_ne, ne_eq]
        omega
      rw [hf]
      exact findMonth_of_distinct rest q hd.2 hq

/-- the adjacency that `monthsCoreOk` asks of consecutive records -/
def adjOk (a b : MonthRec) : Bool := b.first == a.first + a.dayCount && decide (a.year ≤ b.year)

theorem adj_head : ∀ (a : MonthRec) (l : List MonthRec), allAdj adjOk (a :: l) = true →
    (∀ r ∈ l, 0 ≤ r.dayCount) → ∀ b ∈ l, a.year ≤ b.year ∧ a.first + a.dayCount ≤ b.first
  | a, c :: l, h, hd, b, hb => by
    simp only [allAdj, adjOk, Bool.and_eq_true, beq_iff_eq, decide_eq_true_eq] at h
    rcases List.mem_cons.1 hb with rfl | hb
    · omega
    · have := adj_head c l h.2 (fun r hr => hd r (List.mem_cons_of_mem _ hr)) b hb
      have := hd c (List.mem_cons_self ..)
      omega

theorem allAdj_tail {α : Type} {f : α → α → Bool} {a : α} :
    ∀ {l : List α}, allAdj f (a :: l) = true → allAdj f l = true
  | [], _ => rfl
  | _ :: _, h => by simp only [allAdj, Bool.and_eq_true] at h; exact h.2

theorem adj_ordered : ∀ (l₁ l₂ : List MonthRec), allAdj adjOk (l₁ ++ l₂) = true →
    (∀ r ∈ l₁ ++ l₂, 0 ≤ r.dayCount) →
    ∀ a ∈ l₁, ∀ b ∈ l₂, a.year ≤ b.year ∧ a.first + a.dayCount ≤ b.first
  | x :: l₁, l₂, h, hd, a, ha, b, hb => by
    rcases List.mem_cons.1 ha with rfl | ha
    · exact adj_head a (l₁ ++ l₂) h (fun r hr => hd r (List.mem_cons_of_mem _ hr)) b
        (List.mem_append_right _ hb)
    · exact adj_ordered l₁ l₂ (allAdj_tail h) (fun r hr => hd r (List.mem_cons_of_mem _ hr)) a ha b hb

/-- `T` is the part of `A` that `B` contains record for record (as `T'`) -/
theorem recordsAgree_of_part {p : MonthRec → Bool} {Y : Int} {A B T T' : List MonthRec}
    (hT : ∀ r ∈ A, r.year = Y → p r = true → r ∈ T) (hTT : T.map core = T'.map core)
    (hsub : ∀ q ∈ T', q ∈ B) (hd : labelsDistinct B = true) : recordsAgree p Y A B = true := by
  unfold recordsAgree
  rw [List.all_eq_true]
  intro r hr
  by_cases hy : r.year = Y
  · by_cases hp : p r = true
    · have hc : core r ∈ T'.map core := hTT ▸ List.mem_map_of_mem (hT r hr hy hp)
      obtain ⟨q, hq, hqr⟩ := List.mem_map.1 hc
      simp only [core, Prod.mk.injEq] at hqr
      have := findMonth_of_distinct B q hd (hsub q hq)
      rw [hqr.1, hqr.2.1, hy] at this
      simp [this, hqr.2.2.1, hqr.2.2.2]
    · simp [hp]
  · simp [hy]

theorem monthsCoreOk_adj {y : Int} {l : List MonthRec} (h : monthsCoreOk y l = true) :
    allAdj adjOk l = true ∧ labelsDistinct l = true ∧ ∀ r ∈ l, 0 ≤ r.dayCount := by
  unfold monthsCoreOk at h
  simp only [Bool.and_eq_true] at h
  refine ⟨h.1.1.2, h.1.2, fun r hr => ?_⟩
  have := List.all_eq_true.1 h.1.1.1.2 r hr
  simp only [Bool.and_eq_true, decide_eq_true_eq] at this
  omega

theorem monthsInYear_eq_nil {l : List MonthRec} {Y : Int} (h : ∀ r ∈ l, r.year ≠ Y) :
    monthsInYear l Y = [] := by
  unfold monthsInYear
  rw [List.filter_eq_nil_iff]
  intro r hr
  rw [beq_iff_eq]
  exact h r hr

theorem adj_after {l₁ l₂ : List MonthRec} (h : allAdj adjOk (l₁ ++ l₂) = true)
    (hd : ∀ r ∈ l₁ ++ l₂, 0 ≤ r.dayCount) {Y J : Int}
    (hY : ∀ c, l₂.head? = some c → Y ≤ c.year ∧ J < c.first) :
    ∀ r ∈ l₂, Y ≤ r.year ∧ J < r.first := by
  intro r hr
  cases l₂ with
  | nil => cases hr
  | cons c l₂ =>
    have hc := hY c rfl
    rcases List.mem_cons.1 hr with rfl | hr
    · exact hc
    · have := adj_ordered (l₁ ++ [c]) l₂ (by rwa [List.append_assoc]) (by rwa [List.append_assoc]) c
        (by simp) r hr
      have := hd c (by simp)
      omega

/-- All of `pairOk` that concerns the month tables follows from one alignment: the table of year `y`
is `pre ++ S ++ rest`, that of year `y + 1` is `S' ++ suf`, `S` and `S'` agree record for record, `S'`
starts in year `y` no later than 1 January `y + 1`, and `rest`, `suf` start in year `y + 1` after
31 December `y`. Each table being an adjacent chain without repeated labels does the rest.
Outside the reforms `rest` is empty; inside, the two tables may part ways after the new year
(they number the months of year `y + 1` differently). -/
theorem pairMonths_of_align (y : Int) {pre S rest S' suf : List MonthRec} (ya ya' : YearAstro)
    (hm : ya.months = pre ++ S ++ rest) (hm' : ya'.months = S' ++ suf)
    (hc : monthsCoreOk y (pre ++ S ++ rest) = true) (hc' : monthsCoreOk (y + 1) (S' ++ suf) = true)
    (hS : S.map core = S'.map core)
    {s : MonthRec} (hs : s ∈ S') (hsy : s.year = y) (hsf : s.first ≤ jdn (y + 1) 1 1)
    (hrest : ∀ c, rest.head? = some c → y + 1 ≤ c.year ∧ jdn y 12 31 < c.first)
    (hsuf : ∀ c, suf.head? = some c → y + 1 ≤ c.year ∧ jdn y 12 31 < c.first)
    (hfull : (isReformYear y || isReformYear (y + 1)) = false → rest = []) :
    ((if isReformYear y || isReformYear (y + 1) then
        recordsAgree (overlapsCivil y) (y + 1) ya.months ya'.months &&
        recordsAgree (overlapsCivil (y + 1)) y ya'.months ya.months
      else pairStructOk y ya ya') && pairImageOk y ya ya') = true := by
  obtain ⟨hadj, hdist, hdc⟩ := monthsCoreOk_adj hc
  obtain ⟨hadj', hdist', hdc'⟩ := monthsCoreOk_adj hc'
  obtain ⟨s₀, hs₀, hss⟩ := List.mem_map.1 (hS ▸ List.mem_map_of_mem hs)
  simp only [core, Prod.mk.injEq] at hss
  -- `pre` lies before the shared part, `rest` and `suf` after it
  have hpre : ∀ r ∈ pre, r.year ≤ y ∧ r.first + r.dayCount ≤ jdn (y + 1) 1 1 := fun r hr => by
    have := adj_ordered pre (S ++ rest) (by rwa [← List.append_assoc]) (by rwa [← List.append_assoc]) r hr s₀
      (List.mem_append_left _ hs₀)
    omega
  have hrest' := adj_after hadj hdc hrest
  have hsuf' := adj_after hadj' hdc' hsuf
  have inS : ∀ r ∈ pre ++ S ++ rest, (r ∈ pre → False) → (r ∈ rest → False) → r ∈ S :=
      fun r hr h h' => by
    rcases List.mem_append.1 hr with hr | hr
    · exact (List.mem_append.1 hr).elim (fun h' => (h h').elim) id
    · exact (h' hr).elim
  have inS' : ∀ r ∈ S' ++ suf, (r ∈ suf → False) → r ∈ S' := fun r hr h =>
    (List.mem_append.1 hr).elim id (fun h' => (h h').elim)
  have subS : ∀ q ∈ S, q ∈ pre ++ S ++ rest := fun q hq => List.mem_append_left _ (List.mem_append_right _ hq)
  have fwd : ∀ p : MonthRec → Bool, (∀ r ∈ rest, p r = true → False) →
      recordsAgree p (y + 1) (pre ++ S ++ rest) (S' ++ suf) = true := fun p hp =>
    recordsAgree_of_part (fun r hr hy hpr => inS r hr (fun h => by have := hpre r h; omega) (hp r · hpr)) hS
      (fun q hq => List.mem_append_left _ hq) hdist'
  have bwd : ∀ p, recordsAgree p y (S' ++ suf) (pre ++ S ++ rest) = true := fun p =>
    recordsAgree_of_part (fun r hr hy _ => inS' r hr fun h => by have := hsuf' r h; omega) hS.symm subS hdist
  have img : recordsAgree (overlapsCivil (y + 1)) y (pre ++ S ++ rest) (S' ++ suf) = true :=
    recordsAgree_of_part (fun r hr hy ho => inS r hr (fun h => by
      have := hpre r h
      simp only [overlapsCivil, Bool.and_eq_true, decide_eq_true_eq] at ho
      omega) (fun h => by have := hrest' r h; omega)) hS (fun q hq => List.mem_append_left _ hq) hdist'
  have img' : recordsAgree (overlapsCivil y) (y + 1) (S' ++ suf) (pre ++ S ++ rest) = true :=
    recordsAgree_of_part (fun r hr _ ho => inS' r hr fun h => by
      have := hsuf' r h
      simp only [overlapsCivil, Bool.and_eq_true, decide_eq_true_eq] at ho
      omega) hS.symm subS hdist
  unfold pairImageOk
  rw [hm, hm', img, img']
  cases hr : (isReformYear y || isReformYear (y + 1))
  · obtain rfl := hfull hr
    rw [List.append_nil] at fwd bwd ⊢
    have same : ∀ Y, (monthsInYear S Y).map core = (monthsInYear S' Y).map core := fun Y => by
      rw [monthsInYear_core, monthsInYear_core, hS]
    have app : ∀ (l₁ l₂ : List MonthRec) Y,
        monthsInYear (l₁ ++ l₂) Y = monthsInYear l₁ Y ++ monthsInYear l₂ Y := fun _ _ _ => List.filter_append ..
    have pfx : isPrefixOf' (monthsInYear (pre ++ S) (y + 1)) (monthsInYear (S' ++ suf) (y + 1)) = true := by
      apply isPrefixOf'_of_core _ _ ((monthsInYear suf (y + 1)).map core)
      rw [app, app, monthsInYear_eq_nil (l := pre) (fun r hr => by have := hpre r hr; omega), List.nil_append,
        List.map_append, same]
    have sfx : isPrefixOf' (monthsInYear (S' ++ suf) y).reverse (monthsInYear (pre ++ S) y).reverse = true := by
      apply isPrefixOf'_of_core _ _ ((monthsInYear pre y).map core).reverse
      rw [app, app, monthsInYear_eq_nil (l := suf) (fun r hr => by have := hsuf' r hr; omega), List.append_nil,
        List.reverse_append, List.map_append, List.map_reverse, List.map_reverse, List.map_reverse, same]
    have ne : (monthsInYear (S' ++ suf) y).isEmpty = false := by
      have : s ∈ monthsInYear (S' ++ suf) y :=
        List.mem_filter.2 ⟨List.mem_append_left _ hs, by rw [beq_iff_eq]; exact hsy⟩
      cases h : monthsInYear (S' ++ suf) y with
      | nil => rw [h] at this; cases this
      | cons _ _ => rfl
    unfold pairStructOk
    rw [hm, hm', List.append_nil, fwd (fun _ => true) (fun _ h => nomatch h), bwd (fun _ => true), pfx, sfx, ne]
    rfl
  · rw [fwd (overlapsCivil y) (fun r hr ho => by
      have := hrest' r hr
      simp only [overlapsCivil, Bool.and_eq_true, decide_eq_true_eq] at ho
      omega), bwd (overlapsCivil (y + 1))]
    rfl

/-- word `a` of the table of lunar year `y` and word `b` of the table of year `y + 1` carry the same month -/
def sameB (a b : Nat) : Bool := Nat.beq (mLabel a) (32 + mLabel b) && Nat.beq (mSpan a) (mSpan b)

theorem sameB_core (y : Int) (a b : Nat) (h : sameB a b = true) :
    core (monthOf y a) = core (monthOf (y + 1) b) := by
  unfold sameB at h
  rw [Bool.and_eq_true, Nat.beq_eq, Nat.beq_eq, mSpan_eq_iff, mLabel_eq b,
    show 32 + (32 * mYoff b + mMonth b) = 32 * (mYoff b + 1) + mMonth b by omega,
    mLabel_eq_iff _ _ _ (mMonth_lt b)] at h
  simp only [core, monthOf, Prod.mk.injEq]
  omega

def headB (j2 k : Nat) : List Nat → Bool
  | [] => true
  | c :: _ => Nat.ble k (mYoff c) && Nat.blt j2 (mFirst c)

theorem headB_spec {j2 k : Nat} {l : List Nat} (h : headB j2 k l = true) :
    ∀ c, l.head? = some c → k ≤ mYoff c ∧ j2 < mFirst c := by
  intro c hc
  cases l with
  | nil => cases hc
  | cons _ _ =>
    cases hc
    simpa [headB] using h

/-- `as` (from the table of year `y`) agrees word for word with a prefix of `bs` (table of year `y + 1`).
The match runs to the end of `as`; if `part` is set it may stop earlier. -/
def matchB (j2 : Nat) (part : Bool) : List Nat → List Nat → Bool
  | a :: as, b :: bs =>
    cond (sameB a b) (matchB j2 part as bs) (part && headB j2 2 (a :: as) && headB j2 1 (b :: bs))
  | as, bs => (part || as.isEmpty) && headB j2 2 as && headB j2 1 bs

def Matched (y : Int) (j2 : Nat) (part : Bool) (as bs : List Nat) : Prop :=
  ∃ S rest S' suf, as = S ++ rest ∧ bs = S' ++ suf ∧
    S.map (core ∘ monthOf y) = S'.map (core ∘ monthOf (y + 1)) ∧
    (∀ c, rest.head? = some c → 2 ≤ mYoff c ∧ j2 < mFirst c) ∧
    (∀ c, suf.head? = some c → 1 ≤ mYoff c ∧ j2 < mFirst c) ∧ (part = false → rest = [])

theorem matchB_spec (y : Int) (j2 : Nat) (part : Bool) : ∀ as bs : List Nat,
    matchB j2 part as bs = true → Matched y j2 part as bs := by
  have stop : ∀ as bs : List Nat, ((part || as.isEmpty) && headB j2 2 as && headB j2 1 bs) = true →
      Matched y j2 part as bs := fun as bs h => by
    simp only [Bool.and_eq_true, Bool.or_eq_true, List.isEmpty_iff] at h
    exact ⟨[], as, [], bs, rfl, rfl, rfl, headB_spec h.1.2, headB_spec h.2,
      fun hp => h.1.1.resolve_left (by simp [hp])⟩
  intro as
  induction as with
  | nil => intro bs h; exact stop [] bs (by simpa [matchB] using h)
  | cons a as ih =>
    intro bs h
    cases bs with
    | nil => exact stop (a :: as) [] (by simpa [matchB] using h)
    | cons b bs =>
      rw [matchB, Bool.cond_eq_ite] at h
      split at h
      · rename_i hab
        obtain ⟨S, rest, S', suf, has, hbs, hm, hr⟩ := ih bs h
        refine ⟨a :: S, rest, b :: S', suf, by rw [has]; rfl, by rw [hbs]; rfl, ?_, hr⟩
        rw [List.map_cons, List.map_cons, hm, Function.comp, Function.comp, sameB_core y a b hab]
      · exact stop (a :: as) (b :: bs) (by simpa using h)

/-- where the table `b :: bs` of year `y + 1` starts inside the table of year `y` -/
def alignB (j1 j2 : Nat) (part : Bool) (b : Nat) (bs : List Nat) : List Nat → Bool
  | [] => false
  | a :: as =>
    cond (sameB a b) (Nat.beq (mYoff b) 0 && Nat.ble (mFirst b) j1 && matchB j2 part as bs)
      (alignB j1 j2 part b bs as)

theorem alignB_spec (y : Int) (j1 j2 : Nat) (part : Bool) (b : Nat) (bs : List Nat) : ∀ ms : List Nat,
    alignB j1 j2 part b bs ms = true → ∃ pre a as, ms = pre ++ a :: as ∧ sameB a b = true ∧
      mYoff b = 0 ∧ mFirst b ≤ j1 ∧ Matched y j2 part as bs
  | a :: as, h => by
    rw [alignB, Bool.cond_eq_ite] at h
    split at h
    · rename_i hab
      simp only [Bool.and_eq_true, Nat.beq_eq, Nat.ble_eq] at h
      exact ⟨[], a, as, rfl, hab, h.1.1, h.1.2, matchB_spec y j2 part as bs h.2⟩
    · obtain ⟨pre, a', as', hms, hr⟩ := alignB_spec y j1 j2 part b bs as h
      exact ⟨a :: pre, a', as', by rw [hms]; rfl, hr⟩

def pairB (y a a' : Nat) : Bool :=
  (match words 15 a' with
   | b :: bs =>
     alignB (jdnB (y + 1 + 1) 1 1) (jdnB (y + 1) 12 31) (reformB y || reformB (y + 1)) b bs (words 15 a)
   | [] => false) &&
  (!inRangeB y || !inRangeB (y + 1) || termsSharedB a a')

theorem yearOk_core {y : Int} {ya : YearAstro} (h : yearOk y ya = true) : monthsCoreOk y ya.months = true := by
  unfold yearOk at h
  simp only [Bool.and_eq_true] at h
  exact h.1.1.1

theorem pairOk_of (y : Nat) (p q : Nat × Nat) (hp : yearOk y (decodeYear y p) = true)
    (hq : yearOk (y + 1) (decodeYear (y + 1) q) = true) (h : pairB y p.1 q.1 = true) :
    pairOk y (decodeYear y p) (decodeYear (y + 1) q) = true := by
  have hy : ((y + 1 : Nat) : Int) = (y : Int) + 1 := by omega
  unfold pairB at h
  rw [Bool.and_eq_true] at h
  obtain ⟨ha, ht⟩ := h
  have hc := yearOk_core hp
  have hc' := yearOk_core hq
  unfold pairOk
  rw [Bool.and_eq_true]
  refine ⟨?_, ?_⟩
  · cases hw : words 15 q.1 with
    | nil => rw [hw] at ha; cases ha
    | cons b bs =>
      rw [hw] at ha
      obtain ⟨pre, a, as, hms, hab, hb0, hb1, S, rest, S', suf, has, hbs, hS, hrest, hsuf, hfull⟩ :=
        alignB_spec y _ _ _ b bs _ ha
      have hm : (decodeYear y p).months =
          pre.map (monthOf y) ++ (a :: S).map (monthOf y) ++ rest.map (monthOf y) := by
        simp only [months_eq, hms, has, List.map_append, List.map_cons, List.append_assoc, List.cons_append]
      have hm' : (decodeYear (y + 1) q).months =
          (b :: S').map (monthOf (y + 1)) ++ suf.map (monthOf (y + 1)) := by
        simp only [months_eq, hw, hbs, List.map_append, List.map_cons, List.cons_append]
      rw [hm] at hc
      rw [hm'] at hc'
      have e1 := jdnB_jan1 (y + 1)
      have e2 := jdnB_dec31 y
      rw [hy] at e1
      have head : ∀ (l : List Nat) (z : Int) (k : Nat),
          (∀ c, l.head? = some c → k ≤ mYoff c ∧ jdnB (y + 1) 12 31 < mFirst c) →
          ∀ c, (l.map (monthOf z)).head? = some c → k + (z - 1) ≤ c.year ∧ jdn y 12 31 < c.first :=
        fun l z k hl c hc => by
          rw [List.head?_map] at hc
          cases hh : l.head? with
          | none => rw [hh] at hc; cases hc
          | some c₀ =>
            rw [hh] at hc
            cases hc
            have := hl c₀ hh
            simp only [monthOf]
            omega
      refine pairMonths_of_align y _ _ hm hm' hc hc' ?_ (s := monthOf (y + 1) b) (List.mem_map_of_mem (by simp))
        ?_ ?_ (fun c hc => by have := head rest y 2 hrest c hc; omega)
        (fun c hc => by have := head suf (y + 1) 1 hsuf c hc; omega) ?_
      · rw [List.map_map, List.map_map, List.map_cons, List.map_cons, hS, Function.comp, Function.comp,
          sameB_core y a b hab]
      · simp only [monthOf]; omega
      · simp only [monthOf]; omega
      · intro hr
        rw [← hy, ← reformB_eq, ← reformB_eq] at hr
        rw [hfull hr, List.map_nil]
  · rw [← hy, ← inRangeB_eq, ← inRangeB_eq, terms_eq, terms_eq]
    simp only [Bool.or_eq_true] at ht ⊢
    exact ht.imp id (termsShared_of _ _)

def fastCheckBlock (base : Nat) : List (Nat × Nat) → Bool
  | [] => true
  | [p] => yearB base p.1
  | p :: q :: rest => yearB base p.1 && pairB base p.1 q.1 && fastCheckBlock (base + 1) (q :: rest)

theorem checkBlock_head {base : Int} {q : Nat × Nat} {rest : List (Nat × Nat)}
    (h : checkBlock base (q :: rest) = true) : yearOk base (decodeYear base q) = true := by
  cases rest with
  | nil => exact h
  | cons _ _ =>
    simp only [checkBlock, Bool.and_eq_true] at h
    exact h.1.1

theorem checkBlock_of_fast (base : Nat) (l : List (Nat × Nat)) (h : fastCheckBlock base l = true) :
    checkBlock (base : Int) l = true :=
  match l, h with
  | [], _ => rfl
  | [p], h => yearOk_of base p h
  | p :: q :: rest, h => by
    simp only [fastCheckBlock, checkBlock, Bool.and_eq_true] at h ⊢
    have ih := checkBlock_of_fast (base + 1) (q :: rest) h.2
    rw [Int.natCast_add] at ih
    have hp := yearOk_of base p h.1.1
    exact ⟨⟨hp, pairOk_of base p q hp (checkBlock_head ih) h.1.2⟩, ih⟩

theorem listDrop_map {α β : Type} (f : α → β) :
    ∀ (n : Nat) (l : List α), listDrop n (l.map f) = (listDrop n l).map f
  | 0, _ => rfl
  | _ + 1, [] => rfl
  | n + 1, _ :: l => listDrop_map f n l

theorem listTake_map {α β : Type} (f : α → β) :
    ∀ (n : Nat) (l : List α), listTake n (l.map f) = (listTake n l).map f
  | 0, _ => rfl
  | _ + 1, [] => rfl
  | n + 1, a :: l => congrArg (f a :: ·) (listTake_map f n l)

def recIndexB (n : Nat) : List Nat → Nat → Option Nat
  | [], _ => none
  | r :: rest, i =>
    cond (Nat.ble (mFirst r) n && Nat.blt n (mFirst r + mDays r)) (some i) (recIndexB n rest (i + 1))

theorem recIndexB_eq (y : Int) (n : Nat) : ∀ (ms : List Nat) (i : Nat),
    recIndexOf n (ms.map (monthOf y)) i = recIndexB n ms i
  | [], _ => rfl
  | r :: rest, i => by
    have h : (decide ((monthOf y r).first ≤ (n : Int)) &&
        decide ((n : Int) < (monthOf y r).first + (monthOf y r).dayCount)) =
        (Nat.ble (mFirst r) n && Nat.blt n (mFirst r + mDays r)) := by
      rw [Bool.eq_iff_iff]
      simp only [Bool.and_eq_true, decide_eq_true_eq, Nat.ble_eq, Nat.blt_eq]
      simp only [monthOf]
      omega
    rw [List.map_cons, recIndexOf, recIndexB, h, recIndexB_eq y n rest, Bool.cond_eq_ite]

def hasMajorB (r : Nat) : List Nat → Nat → Bool
  | [], _ => false
  | t :: rest, k =>
    (Nat.beq (k % 2) 1 && Nat.ble (mFirst r) (sJdn t) && Nat.blt (sJdn t) (mFirst r + mDays r)) ||
      hasMajorB r rest (k + 1)

theorem hasMajorB_eq (y : Int) (r : Nat) : ∀ (ts : List Nat) (k : Nat),
    hasMajorTerm (monthOf y r) (ts.map stampOf) k = hasMajorB r ts k
  | [], _ => rfl
  | t :: rest, k => by
    rw [List.map_cons, hasMajorTerm, hasMajorB, hasMajorB_eq y r rest, ← sJdn_eq]
    congr 1
    rw [Bool.eq_iff_iff]
    simp only [Bool.and_eq_true, decide_eq_true_eq, Nat.ble_eq, Nat.blt_eq, Nat.beq_eq, beq_iff_eq]
    simp only [monthOf]
    omega

def firstNoMajorB (ts : List Nat) : List Nat → Nat → Nat → Option Nat
  | [], _, _ => none
  | r :: rest, i, stop =>
    cond (Nat.ble stop i) none (cond (hasMajorB r ts 0) (firstNoMajorB ts rest (i + 1) stop) (some i))

theorem firstNoMajorB_eq (y : Int) (ts : List Nat) : ∀ (ms : List Nat) (i stop : Nat),
    firstNoMajor (ts.map stampOf) (ms.map (monthOf y)) i stop = firstNoMajorB ts ms i stop
  | [], _, _ => rfl
  | r :: rest, i, stop => by
    rw [List.map_cons, firstNoMajor, firstNoMajorB, hasMajorB_eq, firstNoMajorB_eq y ts rest]
    by_cases h : i ≥ stop
    · rw [if_pos h, Nat.ble_eq_true_of_le h]; rfl
    · rw [if_neg h, Bool.eq_false_iff.2 (mt Nat.le_of_ble_eq_true h)]
      cases hasMajorB r ts 0 <;> rfl

def isSomeB : Option Nat → Nat → Bool
  | some j, i => Nat.beq j i
  | none, _ => false

theorem isSomeB_eq (o : Option Nat) (i : Nat) : isSomeB o i = (o == some i) := by
  cases o with
  | none => rfl
  | some j => rw [isSomeB, Bool.eq_iff_iff, beq_iff_eq, Option.some.injEq, Nat.beq_eq]

def nextMonthB (prev : Nat) : Nat := cond (Nat.beq prev 12) 1 (prev + 1)

theorem nextMonthB_eq (prev : Nat) : (nextMonthB prev : Int) = if (prev : Int) == 12 then 1 else (prev : Int) + 1 := by
  unfold nextMonthB
  by_cases hp : prev = 12
  · subst hp; rfl
  · have hb : Nat.beq prev 12 = false := Bool.eq_false_iff.2 fun h => hp (Nat.eq_of_beq_eq_true h)
    have : ¬((prev : Int) = 12) := by omega
    simp [hb, this]

def spanNumberedB : List Nat → Nat → Option Nat → Nat → Bool
  | [], _, _, _ => true
  | r :: rest, i, leapPos, prev =>
    cond (isSomeB leapPos i)
      (Nat.beq (mMonth r + prev) 13 && spanNumberedB rest (i + 1) leapPos prev)
      (Nat.beq (mMonth r) (nextMonthB prev + 13) && spanNumberedB rest (i + 1) leapPos (nextMonthB prev))

theorem spanNumberedB_eq (y : Int) : ∀ (ms : List Nat) (i : Nat) (leapPos : Option Nat) (prev : Nat),
    spanNumbered (ms.map (monthOf y)) i leapPos prev = spanNumberedB ms i leapPos prev
  | [], _, _, _ => rfl
  | r :: rest, i, leapPos, prev => by
    rw [List.map_cons, spanNumbered, spanNumberedB, isSomeB_eq, Bool.cond_eq_ite]
    split
    · rw [spanNumberedB_eq y rest]
      congr 1
      rw [Bool.eq_iff_iff, beq_iff_eq, Nat.beq_eq]
      simp only [monthOf]
      omega
    · simp only []
      rw [← nextMonthB_eq, spanNumberedB_eq y rest]
      congr 1
      rw [Bool.eq_iff_iff, beq_iff_eq, Nat.beq_eq]
      simp only [monthOf]
      omega

def leapRuleB (ms ts : List Nat) : Bool :=
  match ts[1]?, ts[25]? with
  | some dz0, some dz1 =>
    match recIndexB (sJdn dz0) ms 0, recIndexB (sJdn dz1) ms 0 with
    | some i0, some i1 =>
      (match ms[i0]?, ms[i1]? with
       | some a, some b => Nat.beq (mLabel a) 24 && Nat.beq (mLabel b) 56
       | _, _ => false) &&
      cond (Nat.beq (i1 - i0) 12)
        ((listTake (i1 - i0) (listDrop i0 ms)).all (fun r => Nat.blt 13 (mMonth r)) &&
          spanNumberedB (listDrop 1 (listTake (i1 - i0) (listDrop i0 ms))) 1 none 11)
        (cond (Nat.beq (i1 - i0) 13)
          (match firstNoMajorB ts (listDrop (i0 + 1) ms) (i0 + 1) i1 with
           | some j => spanNumberedB (listDrop 1 (listTake (i1 - i0) (listDrop i0 ms))) (i0 + 1) (some j) 11
           | none => false)
          false)
    | _, _ => false
  | _, _ => false

theorem leapRuleOk_of (y : Int) (ms ts : List Nat) (ya : YearAstro) (hm : ya.months = ms.map (monthOf y))
    (ht : ya.terms = ts.map stampOf) (h : leapRuleB ms ts = true) : leapRuleOk y ya = true := by
  unfold leapRuleB at h
  unfold leapRuleOk
  rw [hm, ht, List.getElem?_map, List.getElem?_map]
  cases h1 : ts[1]? <;> cases h25 : ts[25]? <;> simp only [h1, h25, Option.map] at h ⊢ <;> try exact h
  rw [← sJdn_eq, ← sJdn_eq, recIndexB_eq, recIndexB_eq]
  cases hi0 : recIndexB (sJdn _) ms 0 <;> cases hi1 : recIndexB (sJdn _) ms 0 <;>
    simp only [hi0, hi1] at h ⊢ <;> try exact h
  rename_i i0 i1
  rw [Bool.and_eq_true] at h ⊢
  refine ⟨?_, ?_⟩
  · have h := h.1
    rw [List.getElem?_map, List.getElem?_map]
    cases ha : ms[i0]? <;> cases hb : ms[i1]? <;> simp only [ha, hb, Option.map] at h ⊢ <;> try exact h
    rename_i a b
    rw [Bool.and_eq_true, Nat.beq_eq, Nat.beq_eq, mLabel_eq_iff a 0 24 (by omega), mLabel_eq_iff b 1 24 (by omega)] at h
    simp only [Bool.and_eq_true, beq_iff_eq]
    simp only [monthOf]
    omega
  · have h := h.2
    have e11 : (11 : Int) = ((11 : Nat) : Int) := rfl
    simp only [listDrop_map, listTake_map, e11, spanNumberedB_eq, firstNoMajorB_eq, List.all_map]
    simp only [Bool.cond_eq_ite, Nat.beq_eq] at h
    simp only [beq_iff_eq]
    split <;> rename_i h12
    · rw [if_pos h12, Bool.and_eq_true] at h
      rw [Bool.and_eq_true]
      refine ⟨?_, h.2⟩
      rw [List.all_eq_true] at h ⊢
      intro r hr
      have := h.1 r hr
      rw [Nat.blt_eq] at this
      simp only [Function.comp, decide_eq_true_eq]
      simp only [monthOf]
      omega
    · rw [if_neg h12] at h
      exact h

def leapRangeB (y : Nat) : Bool := Nat.ble 1929 y && Nat.ble y 3000

theorem leapRangeB_eq (y : Nat) : leapRangeB y = leapRuleRange y := by
  unfold leapRangeB leapRuleRange
  rw [Bool.eq_iff_iff]
  simp only [Bool.and_eq_true, decide_eq_true_eq, Nat.ble_eq]
  omega

def fastCheckLeapBlock (base : Nat) : List (Nat × Nat) → Bool
  | [] => true
  | p :: rest =>
    (!leapRangeB base || leapRuleB (words 15 p.1) (words 31 (p.1 >>> 600))) && fastCheckLeapBlock (base + 1) rest

theorem checkLeapBlock_of_fast (base : Nat) (l : List (Nat × Nat)) (h : fastCheckLeapBlock base l = true) :
    checkLeapBlock (base : Int) l = true :=
  match l, h with
  | [], _ => rfl
  | p :: rest, h => by
    simp only [fastCheckLeapBlock, checkLeapBlock, Bool.and_eq_true, Bool.or_eq_true] at h ⊢
    have ih := checkLeapBlock_of_fast (base + 1) rest h.2
    rw [Int.natCast_add] at ih
    rw [← leapRangeB_eq]
    exact ⟨h.1.imp id (leapRuleOk_of base _ _ _ (months_eq _ p) (terms_eq _ p)), ih⟩

end Model
