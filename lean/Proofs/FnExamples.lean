/-
Proofs.FnExamples — NON-VACUITY WITNESSES for the `FnEq` / `FnSEq` / `FnE2E` equivalence theorems:
each theorem is instantiated with concrete, realistic values (a real date, real pillar indices, an
atom assignment computed from the model itself) and ALL its hypotheses are discharged, so the
hypotheses are jointly satisfiable and the theorem is not vacuous.
-/
import Proofs.FnPillars
import Proofs.FnE2EStar
import Proofs.FnWeek
import Proofs.FnYun
import Proofs.FnSeason
import Proofs.FnS3
import Proofs.FnSFortune
import Proofs.FnSLunarFest
import Proofs.FnSolarNext

namespace FnExamples
open FnEq

/-! ## Solar.NextDay: 2024-02-28 10:30:00 + 2 days = 2024-03-01 10:30:00 (leap day crossed) -/

def s20240228 : Gen.Fn.Solar := ⟨2024, 2, 28, 10, 30, 0⟩

theorem nextDay_witness :
    Gen.Fn.calendar_Solar_NextDay 4 s20240228 2 = .ok ⟨2024, 3, 1, 10, 30, 0⟩ :=
  solarNextDay_eq 4 s20240228 2 (by decide) (by decide)

#eval Gen.Fn.calendar_Solar_NextDay 4 s20240228 2
#eval (toM s20240228).nextDay 2

/-! ## Solar.Subtract / Solar.IsBefore across the 1582 reform gap -/

def s15821004 : Gen.Fn.Solar := ⟨1582, 10, 4, 0, 0, 0⟩
def s15821015 : Gen.Fn.Solar := ⟨1582, 10, 15, 0, 0, 0⟩

/-- 1582-10-15 is the day after 1582-10-04 -/
theorem subtract_witness : Gen.Fn.calendar_Solar_Subtract s15821015 s15821004 = .ok 1 :=
  solarSubtract_eq_of_valid s15821015 s15821004 (by decide) (by decide)

theorem isBefore_witness :
    Gen.Fn.calendar_Solar_IsBefore s15821004 s15821015 = .ok true ∧
    Gen.Fn.calendar_Solar_IsBefore s15821015 s15821004 = .ok false :=
  ⟨solarIsBefore_eq s15821004 s15821015, solarIsBefore_eq s15821015 s15821004⟩

#eval Gen.Fn.calendar_Solar_Subtract s15821015 s15821004
#eval (toM s15821015).subtract (toM s15821004)

/-! ## computeYear: 2024-02-03 23:30, the day before Lichun 2024-02-04 16:27:00.
Lunar date 2023-12-24, so `lunar.year = 2023 < solarYear = 2024`: the atoms `a5`, `a6` are the ones
read.  All three year pillars are 癸卯 (stem 9, branch 3). -/

def lichun2024 : Model.Solar := ⟨2024, 2, 4, 16, 27, 0⟩
def lichun2025 : Model.Solar := ⟨2025, 2, 3, 22, 10, 0⟩

/-- the 31-entry term table of lunar year 2024 in `JIE_QI_IN_USE` order (Beijing time, rounded to the
minute; approximate values are enough here: only the order of the stamps matters) -/
def terms2024 : List Model.Solar :=
  [⟨2023, 12, 7, 17, 33, 0⟩, ⟨2023, 12, 22, 11, 27, 0⟩, ⟨2024, 1, 6, 4, 49, 0⟩, ⟨2024, 1, 20, 22, 7, 0⟩,
   lichun2024, ⟨2024, 2, 19, 12, 13, 0⟩, ⟨2024, 3, 5, 10, 23, 0⟩, ⟨2024, 3, 20, 11, 6, 0⟩,
   ⟨2024, 4, 4, 15, 2, 0⟩, ⟨2024, 4, 19, 22, 0, 0⟩, ⟨2024, 5, 5, 8, 10, 0⟩, ⟨2024, 5, 20, 21, 0, 0⟩,
   ⟨2024, 6, 5, 12, 10, 0⟩, ⟨2024, 6, 21, 4, 51, 0⟩, ⟨2024, 7, 6, 22, 20, 0⟩, ⟨2024, 7, 22, 15, 44, 0⟩,
   ⟨2024, 8, 7, 8, 9, 0⟩, ⟨2024, 8, 22, 22, 55, 0⟩, ⟨2024, 9, 7, 11, 11, 0⟩, ⟨2024, 9, 22, 20, 44, 0⟩,
   ⟨2024, 10, 8, 3, 0, 0⟩, ⟨2024, 10, 23, 6, 15, 0⟩, ⟨2024, 11, 7, 6, 20, 0⟩, ⟨2024, 11, 22, 3, 56, 0⟩,
   ⟨2024, 12, 6, 23, 17, 0⟩, ⟨2024, 12, 21, 17, 21, 0⟩, ⟨2025, 1, 5, 10, 33, 0⟩, ⟨2025, 1, 20, 4, 0, 0⟩,
   lichun2025, ⟨2025, 2, 18, 18, 7, 0⟩, ⟨2025, 3, 5, 16, 7, 0⟩]

def l20240203 : Gen.Fn.Lunar :=
  { (default : Gen.Fn.Lunar) with
    year := 2023, month := 12, day := 24, hour := 23, minute := 30, second := 0,
    solar := ⟨2024, 2, 3, 23, 30, 0⟩ }

def gLichun2024 : Gen.Fn.Solar := ⟨2024, 2, 4, 16, 27, 0⟩
def gLichun2025 : Gen.Fn.Solar := ⟨2025, 2, 3, 22, 10, 0⟩

/-- Go's `strings.Compare(solarYmd, liChunYmd)` / `(solarYmdHms, liChunYmdHms)` computed by the model -/
def cmpYmd : Int := pl_goCmp (pl_toM l20240203.solar).toYmd
  (pl_toM (pl_liChunG gLichun2024 gLichun2025 l20240203)).toYmd
def cmpYmdHms : Int := pl_goCmp (pl_toM l20240203.solar).toYmdHms
  (pl_toM (pl_liChunG gLichun2024 gLichun2025 l20240203)).toYmdHms

theorem computeYear_witness :
    Gen.Fn.calendar_computeYear gLichun2024 gLichun2025 cmpYmd cmpYmdHms cmpYmd cmpYmdHms l20240203 =
      .ok { l20240203 with yearGanIndex := 9, yearZhiIndex := 3,
                           yearGanIndexByLiChun := 9, yearZhiIndexByLiChun := 3,
                           yearGanIndexExact := 9, yearZhiIndexExact := 3 } :=
  computeYear_eq_cmp terms2024 gLichun2024 gLichun2025 cmpYmd cmpYmdHms cmpYmd cmpYmdHms
    l20240203 (by decide) (by decide)
    (pl_goCmp_spec _ _) (pl_goCmp_spec _ _) (pl_goCmp_spec _ _) (pl_goCmp_spec _ _)

#eval cmpYmd
#eval Gen.Fn.calendar_computeYear gLichun2024 gLichun2025 cmpYmd cmpYmdHms cmpYmd cmpYmdHms l20240203
#eval Model.computeYear 2023 ⟨2024, 2, 3, 23, 30, 0⟩ terms2024

/-! ## computeDay / computeTime for 2024-02-03 23:30 (late-rat hour: the early-rat school's day
pillar is the NEXT one).  jdn 2460344: day pillar 丁酉 (3, 9); `Exact` 戊戌 (4, 10); `Exact2` 丁酉. -/

theorem computeDay_witness :
    Gen.Fn.calendar_computeDay (Model.jdn 2024 2 3 - 11)
        (pl_goCmp (Model.fmtHm 23 30) ['2', '3', ':', '0', '0'])
        (pl_goCmp (Model.fmtHm 23 30) ['2', '3', ':', '5', '9']) l20240203 =
      .ok { l20240203 with dayGanIndex := 3, dayZhiIndex := 9, dayGanIndexExact := 4,
                           dayZhiIndexExact := 10, dayGanIndexExact2 := 3, dayZhiIndexExact2 := 9 } :=
  computeDay_eq_cmp _ _ _ l20240203 (by decide) rfl (by decide) (pl_goCmp_spec _ _) (pl_goCmp_spec _ _)

/-- the receiver of `computeTime`: the result of `computeDay` above (`dayGanIndexExact = 4`) -/
def l20240203d : Gen.Fn.Lunar :=
  { l20240203 with dayGanIndex := 3, dayZhiIndex := 9, dayGanIndexExact := 4,
                   dayZhiIndexExact := 10, dayGanIndexExact2 := 3, dayZhiIndexExact2 := 9 }

/-- 23:30 is hour branch 子 (0); five-rats rule from day stem 戊 (4): hour stem 壬 (8) -/
theorem computeTime_witness :
    Gen.Fn.calendar_computeTime (Model.timeZhiIndexOf 23 30) l20240203d =
      .ok { l20240203d with timeZhiIndex := 0, timeGanIndex := 8 } :=
  computeTime_eq _ l20240203d rfl (by decide)

#eval Model.jdn 2024 2 3
#eval Model.computeDay ⟨2024, 2, 3, 23, 30, 0⟩ 23 30
#eval Model.timeZhiIndexOf 23 30

/-! ## Nine stars: the year star of 2024 and the month star of the (solar) month 寅 of 2024 -/

/-- `NewLunarYear(2024)`: stem 甲 (0), branch 辰 (4); the atom is the 60-cycle position 甲辰 = 40 -/
theorem lunarYear_star_witness :
    Gen.Fn.calendar_LunarYear_GetNineStar 40 ⟨2024, 0, 4⟩ = .ok ⟨2⟩ :=
  lunarYear_getNineStar_eq 40 ⟨2024, 0, 4⟩ (by decide) (by decide) (by decide)

/-- the same statement as already packaged in `FnE2E` -/
example : Gen.Fn.calendar_LunarYear_GetNineStar 40 ⟨2024, 0, 4⟩ = .ok ⟨2⟩ := FnE2E.lunarYear_star_2024'

/-- 2024-02-10 (lunar 2024-01-01): year branch 辰 (4) under all three conventions, month branch 寅 (2) -/
def l20240210 : Gen.Fn.Lunar :=
  { (default : Gen.Fn.Lunar) with
    year := 2024, month := 1, day := 1, hour := 12,
    yearGanIndex := 0, yearZhiIndex := 4, yearGanIndexByLiChun := 0, yearZhiIndexByLiChun := 4,
    yearGanIndexExact := 0, yearZhiIndexExact := 4,
    monthGanIndex := 2, monthZhiIndex := 2, monthGanIndexExact := 2, monthZhiIndexExact := 2,
    solar := ⟨2024, 2, 10, 12, 0, 0⟩ }

/-- month 寅 of a 辰 year: star index 4 (五黄), whichever school -/
theorem monthNineStar_witness :
    Gen.Fn.calendar_Lunar_GetMonthNineStarBySect l20240210 1 = .ok ⟨4⟩ ∧
    Gen.Fn.calendar_Lunar_GetMonthNineStarBySect l20240210 2 = .ok ⟨4⟩ ∧
    Gen.Fn.calendar_Lunar_GetMonthNineStarBySect l20240210 3 = .ok ⟨4⟩ :=
  ⟨getMonthNineStarBySect_eq l20240210 terms2024 1, getMonthNineStarBySect_eq l20240210 terms2024 2,
    getMonthNineStarBySect_eq l20240210 terms2024 3⟩

#eval Gen.Fn.calendar_Lunar_GetMonthNineStarBySect l20240210 2
#eval (ns_lunarToM l20240210 terms2024).monthNineStar 2

/-! ## SolarUtil.GetWeeksOfMonth: May 2022 with Monday start spans 6 weeks; October 1582 (21 days) -/

theorem weeksOfMonth_witness_2022_05 :
    Gen.Fn.SolarUtil_GetWeeksOfMonth 0 2022 5 1 = .ok 6 :=
  getWeeksOfMonth_eq' 0 2022 5 1 (by decide) (by decide) (by decide)

/-- the atom computed by the model: 1582-10-01 is a Monday (1) -/
theorem weeksOfMonth_witness_1582_10 :
    Gen.Fn.SolarUtil_GetWeeksOfMonth (Model.week 1582 10 1) 1582 10 0 = .ok 4 :=
  getWeeksOfMonth_eq 1582 10 0 (by decide) (by decide)

#eval Model.week 2022 5 1
#eval Model.week 1582 10 1
#eval Gen.Fn.SolarUtil_GetWeeksOfMonth 0 2022 5 1
#eval Gen.Fn.SolarUtil_GetWeeksOfMonth 1 1582 10 0

/-! ## Yun.computeStart: birth 1990-05-15 08:20:00 between the Jie 立夏 1990-05-06 03:35:00 and
芒种 1990-06-06 07:46:00 (minute-rounded stamps), both schools, both directions -/

def birth1990 : Gen.Fn.Solar := ⟨1990, 5, 15, 8, 20, 0⟩
def prevJie1990 : Gen.Fn.JieQi := ⟨⟨1990, 5, 6, 3, 35, 0⟩, true, false⟩
def nextJie1990 : Gen.Fn.JieQi := ⟨⟨1990, 6, 6, 7, 46, 0⟩, true, false⟩
def yun1990 (forward : Bool) : Gen.Fn.Yun :=
  { gender := 1, startYear := 0, startMonth := 0, startDay := 0, startHour := 0, forward := forward,
    lunar := { (default : Gen.Fn.Lunar) with solar := birth1990 } }

/-- school 2 (minute count), forward: 22 days minus 34 minutes to 芒种 → 7 years 3 months 27 days 4 hours -/
theorem yun_witness_sect2_forward :
    Gen.Fn.calendar_Yun_computeStart prevJie1990 nextJie1990 0 0 (yun1990 true) 2 =
      .ok { (yun1990 true) with startYear := 7, startMonth := 3, startDay := 27, startHour := 4 } :=
  yunComputeStart_eq prevJie1990 nextJie1990 0 0 (yun1990 true) 2 (by decide) (by decide)
    (fun c => absurd rfl c) (fun c => absurd rfl c)

/-- school 1 (day + hour-branch count), forward; atoms `a3` / `a4` = hour branches of 07:46 / 08:20 -/
theorem yun_witness_sect1_forward :
    Gen.Fn.calendar_Yun_computeStart prevJie1990 nextJie1990
        (Model.timeZhiIndexOf 7 46) (Model.timeZhiIndexOf 8 20) (yun1990 true) 1 =
      .ok { (yun1990 true) with startYear := 7, startMonth := 4, startDay := 0, startHour := 0 } :=
  yunComputeStart_eq prevJie1990 nextJie1990 _ _ (yun1990 true) 1 (by decide) (by decide)
    (fun _ _ => by decide) (fun _ _ => by decide)

/-- school 1, backward (from 立夏 to the birth moment); atoms = hour branches of 08:20 / 03:35 -/
theorem yun_witness_sect1_backward :
    Gen.Fn.calendar_Yun_computeStart prevJie1990 nextJie1990
        (Model.timeZhiIndexOf 8 20) (Model.timeZhiIndexOf 3 35) (yun1990 false) 1 =
      .ok { (yun1990 false) with startYear := 3, startMonth := 0, startDay := 20, startHour := 0 } :=
  yunComputeStart_eq prevJie1990 nextJie1990 _ _ (yun1990 false) 1 (by decide) (by decide)
    (fun _ _ => by decide) (fun _ _ => by decide)

#eval mi_yunStart (toM birth1990) (toM prevJie1990.solar) (toM nextJie1990.solar) true 2
#eval mi_yunStart (toM birth1990) (toM prevJie1990.solar) (toM nextJie1990.solar) true 1
#eval mi_yunStart (toM birth1990) (toM prevJie1990.solar) (toM nextJie1990.solar) false 1
#eval Gen.Fn.calendar_Yun_computeStart prevJie1990 nextJie1990 (Model.timeZhiIndexOf 8 20) (Model.timeZhiIndexOf 3 35) (yun1990 false) 1

/-! ## Lunar.GetShuJiu / Lunar.GetFu, the `NextDay` hypotheses discharged by `solarNextDay_eq` -/

def l20240115 : Gen.Fn.Lunar :=
  { (default : Gen.Fn.Lunar) with year := 2023, month := 12, day := 5, solar := ⟨2024, 1, 15, 0, 0, 0⟩ }
def l20240801 : Gen.Fn.Lunar :=
  { (default : Gen.Fn.Lunar) with year := 2024, month := 6, day := 27, solar := ⟨2024, 8, 1, 0, 0, 0⟩ }

/-- 2024-01-15 is 24 days after the solstice 2023-12-22: third nine, day 7 (三九第7天) -/
theorem shuJiu_witness :
    Gen.Fn.calendar_Lunar_GetShuJiu 83 ⟨2024, 12, 21, 17, 21, 0⟩ ⟨2023, 12, 22, 11, 27, 0⟩ l20240115 =
      .ok (some ⟨7⟩) :=
  lunarGetShuJiu_eq 83 _ _ l20240115 terms2024
    (by decide) (by decide) (by decide) (by decide) (fun _ => by decide)
    (solarNextDay_eq 83 _ 81 (by decide) (by decide))

/-- 2024-08-01: the solstice 2024-06-21 is a 丙 day (stem 2), so 初伏 starts 24 days later on
2024-07-15, 中伏 on 2024-07-25: 中伏 day 8 -/
theorem fu_witness :
    Gen.Fn.calendar_Lunar_GetFu 83 ⟨2024, 6, 21, 4, 51, 0⟩ ⟨2024, 8, 7, 8, 9, 0⟩
        { (default : Gen.Fn.Lunar) with dayGanIndex := 2 } l20240801 = .ok (some ⟨8⟩) :=
  lunarGetFu_eq 83 _ _ _ l20240801 terms2024
    (by decide) (by decide) (by decide) (by decide) (by decide) (by decide)
    (solarNextDay_eq 83 _ _ (by decide) (by decide))
    (fun s hs => solarNextDay_eq 83 (ofM s) 10 (by simpa using hs) (by decide))

#eval (mi_lunarToM l20240115 terms2024).shuJiu
#eval Gen.Fn.calendar_Lunar_GetShuJiu 83 ⟨2024, 12, 21, 17, 21, 0⟩ ⟨2023, 12, 22, 11, 27, 0⟩ l20240115
#eval (mi_lunarToM l20240801 terms2024).fu
#eval Gen.Fn.calendar_Lunar_GetFu 83 ⟨2024, 6, 21, 4, 51, 0⟩ ⟨2024, 8, 7, 8, 9, 0⟩ { (default : Gen.Fn.Lunar) with dayGanIndex := 2 } l20240801
#eval Model.dayGanOf ⟨2024, 6, 21, 4, 51, 0⟩

/-! ## String mode (`Gen.FnS`): the index guards are jointly satisfiable on a real `Lunar`.
The conclusions stay symbolic in the table value (string tables are kept opaque); `#eval` prints them. -/

/-- 2024-02-03 23:30:00 (Saturday) = lunar 2023-12-24: year 癸卯 (9, 3), month 乙丑 (1, 1), day 丁酉 (3, 9)
(early-rat school: 戊戌 (4, 10)), hour 壬子 (8, 0) — the values of `computeYear_witness`, `computeDay_witness` and `computeTime_witness` -/
def ls20240203 : Gen.FnS.Lunar :=
  { (default : Gen.FnS.Lunar) with
    year := 2023, month := 12, day := 24, hour := 23, minute := 30, second := 0,
    yearGanIndex := 9, yearZhiIndex := 3, yearGanIndexByLiChun := 9, yearZhiIndexByLiChun := 3,
    yearGanIndexExact := 9, yearZhiIndexExact := 3,
    monthGanIndex := 1, monthZhiIndex := 1, monthGanIndexExact := 1, monthZhiIndexExact := 1,
    dayGanIndex := 3, dayZhiIndex := 9, dayGanIndexExact := 4, dayZhiIndexExact := 10,
    dayGanIndexExact2 := 3, dayZhiIndexExact2 := 9, timeGanIndex := 8, timeZhiIndex := 0,
    weekIndex := 6, solar := ⟨2024, 2, 3, 23, 30, 0⟩ }

theorem positionXi_witness :
    Gen.FnS.calendar_Lunar_GetDayPositionXi ls20240203 = .ok (Model.positionXi 3) :=
  FnSEq.lunarGetDayPositionXi_eq ls20240203 (by decide) (by decide)

theorem tianShen_witness :
    Gen.FnS.calendar_Lunar_GetDayTianShen ls20240203 = .ok (Model.tianShen 9 1) :=
  FnSEq.lunarGetDayTianShen_eq ls20240203 (by decide) (by decide) (by decide)

/-- the eight-char object of that moment, late-rat school (`sect = 2`: day pillar 丁酉) -/
def ec20240203 : Gen.FnS.EightChar := ⟨2, ls20240203⟩

theorem dayDiShi_witness :
    Gen.FnS.calendar_EightChar_GetDayDiShi ec20240203 = .ok (FnSEq.ecToM ec20240203 terms2024).dayDiShi :=
  FnSEq.eightCharGetDayDiShi_eq ec20240203 terms2024 (by decide) (by decide) (by decide) (by decide)

#eval Gen.FnS.calendar_Lunar_GetDayPositionXi ls20240203
#eval Model.positionXi 3
#eval Gen.FnS.calendar_Lunar_GetDayTianShen ls20240203
#eval Model.tianShen 9 1
#eval Gen.FnS.calendar_EightChar_GetDayDiShi ec20240203
#eval (FnSEq.ecToM ec20240203 terms2024).dayDiShi

/-- 2024-02-09 = lunar 2023-12-30, the atom `a1` = `lunar.Next(1)` = lunar 2024-01-01 -/
def ls20240209 : Gen.FnS.Lunar := { ls20240203 with day := 30, hour := 12, minute := 0 }
def ls20240210 : Gen.FnS.Lunar := { ls20240203 with year := 2024, month := 1, day := 1, hour := 12, minute := 0 }

/-- New Year's Eve is reported on 2023-12-30 … -/
theorem chuXi_witness :
    ∃ r, Gen.FnS.calendar_Lunar_GetFestivals ls20240210 ls20240209 = .ok r ∧ "除夕" ∈ r :=
  ⟨_, FnSEq.lunarGetFestivals_shape ls20240210 ls20240209,
    (FnSEq.lunarGetFestivals_chuXi_iff ls20240210 ls20240209 _
      (FnSEq.lunarGetFestivals_shape ls20240210 ls20240209)).mpr ⟨Or.inl rfl, by decide, by decide⟩⟩

/-- … and not on 2023-12-24 (whatever the atom) -/
theorem chuXi_witness_neg (a1 : Gen.FnS.Lunar) :
    ∃ r, Gen.FnS.calendar_Lunar_GetFestivals a1 ls20240203 = .ok r ∧ "除夕" ∉ r :=
  ⟨_, FnSEq.lunarGetFestivals_shape a1 ls20240203, fun hm =>
    absurd ((FnSEq.lunarGetFestivals_chuXi_iff a1 ls20240203 _
      (FnSEq.lunarGetFestivals_shape a1 ls20240203)).mp hm).2.1 (by decide)⟩

#eval Gen.FnS.calendar_Lunar_GetFestivals ls20240210 ls20240209
#eval Gen.FnS.calendar_Lunar_GetFestivals ls20240210 ls20240203

/-! ## Fortune periods (Proofs/FnSFortune) -/

/-- a male (gender 1) born 2024-02-03 23:30: year stem 癸 is yin, so the periods run BACKWARD from the
month pillar 乙丑; the third period (index 3) is 壬戌 -/
def yunS : Gen.FnS.Yun :=
  { gender := 1, startYear := 0, startMonth := 8, startDay := 28, startHour := 0, forward := false,
    lunar := ls20240203 }
def daYun3 : Gen.FnS.DaYun :=
  { startYear := 2044, endYear := 2053, startAge := 21, endAge := 30, index := 3, yun := yunS,
    lunar := ls20240203 }

theorem daYunGanZhi_witness :
    Gen.FnS.calendar_DaYun_GetGanZhi daYun3 =
      .ok (Model.DaYun.ganZhi (FnSEq.daYunToM daYun3) (FnSEq.yunToM daYun3.yun terms2024)) :=
  FnSEq.daYunGetGanZhi_eq' daYun3 terms2024 rfl (by decide) (by decide) (by decide) (by decide)
    (by decide) (by decide)

/-- the first month (index 0) of a flowing year 甲辰: 丙寅 (five-tigers rule) -/
def liuYue0 : Gen.FnS.LiuYue := { (default : Gen.FnS.LiuYue) with index := 0 }

theorem liuYueGanZhi_witness :
    Gen.FnS.calendar_LiuYue_GetGanZhi "甲辰" liuYue0 = .ok (Model.liuYueGanZhi "甲辰" 0) :=
  FnSEq.liuYueGetGanZhi_eq' "甲辰" liuYue0 (by decide) (by decide)

#eval Gen.FnS.calendar_DaYun_GetGanZhi daYun3
#eval Model.DaYun.ganZhi (FnSEq.daYunToM daYun3) (FnSEq.yunToM daYun3.yun terms2024)
#eval Gen.FnS.calendar_LiuYue_GetGanZhi "甲辰" liuYue0
#eval Model.liuYueGanZhi "甲辰" 0

/-! ## Solar.Next(days, true) (Proofs/FnSolarNext): one working day ahead, empty holiday table -/

/-- no holiday records at all: `GetHoliday` finds nothing for any day -/
def noHolidays : Model.HolidayState := ⟨[], []⟩

/-- Monday 2024-03-04 09:00 → Tuesday 2024-03-05.  Atoms of the single iteration: "no record"
(`a2 0 = true`), weekday 2 (`a3 0 = 2`); `a1` (the record) is not read. -/
theorem next_witness_monday :
    Gen.Fn.calendar_Solar_Next 3 (fun _ => default) (fun _ => true) (fun _ => 2)
      ⟨2024, 3, 4, 9, 0, 0⟩ 1 true = .ok ⟨2024, 3, 5, 9, 0, 0⟩ := by
  refine solarNext_eq 3 1 noHolidays (fun _ => default) (fun _ => true) (fun _ => 2)
    ⟨2024, 3, 4, 9, 0, 0⟩ 1 ⟨2024, 3, 5, 9, 0, 0⟩ (by decide) (by decide) (by decide) ?_ (by decide)
  intro k d hk hd
  obtain rfl : k = 0 := by omega
  obtain rfl : d = ⟨2024, 3, 5, 9, 0, 0⟩ := Option.some.inj (hd.symm.trans (by decide))
  decide

/-- Friday 2024-03-08 → Monday 2024-03-11: three iterations, weekdays 6, 0, 1 (the first two do not
count).  Model fuel 3, generated fuel 4. -/
theorem next_witness_friday :
    Gen.Fn.calendar_Solar_Next 4 (fun _ => default) (fun _ => true) (fun k => (6 + k) % 7)
      ⟨2024, 3, 8, 9, 0, 0⟩ 1 true = .ok ⟨2024, 3, 11, 9, 0, 0⟩ := by
  refine solarNext_eq 4 3 noHolidays (fun _ => default) (fun _ => true) (fun k => (6 + k) % 7)
    ⟨2024, 3, 8, 9, 0, 0⟩ 1 ⟨2024, 3, 11, 9, 0, 0⟩ (by decide) (by decide) (by decide) ?_ (by decide)
  intro k d hk hd
  obtain rfl | rfl | rfl : k = 0 ∨ k = 1 ∨ k = 2 := by omega
  · obtain rfl : d = ⟨2024, 3, 9, 9, 0, 0⟩ := Option.some.inj (hd.symm.trans (by decide))
    decide
  · obtain rfl : d = ⟨2024, 3, 10, 9, 0, 0⟩ := Option.some.inj (hd.symm.trans (by decide))
    decide
  · obtain rfl : d = ⟨2024, 3, 11, 9, 0, 0⟩ := Option.some.inj (hd.symm.trans (by decide))
    decide

#eval Gen.Fn.calendar_Solar_Next 4 (fun _ => default) (fun _ => true) (fun k => (6 + k) % 7) ⟨2024, 3, 8, 9, 0, 0⟩ 1 true
#eval Model.nextWorkday noHolidays ⟨2024, 3, 8, 9, 0, 0⟩ 1 3
#eval Model.week 2024 3 4

#print axioms nextDay_witness
#print axioms subtract_witness
#print axioms isBefore_witness
#print axioms computeYear_witness
#print axioms computeDay_witness
#print axioms computeTime_witness
#print axioms lunarYear_star_witness
#print axioms monthNineStar_witness
#print axioms weeksOfMonth_witness_2022_05
#print axioms weeksOfMonth_witness_1582_10
#print axioms yun_witness_sect2_forward
#print axioms yun_witness_sect1_forward
#print axioms yun_witness_sect1_backward
#print axioms shuJiu_witness
#print axioms fu_witness
#print axioms positionXi_witness
#print axioms tianShen_witness
#print axioms dayDiShi_witness
#print axioms chuXi_witness
#print axioms chuXi_witness_neg
#print axioms daYunGanZhi_witness
#print axioms liuYueGanZhi_witness
#print axioms next_witness_monday
#print axioms next_witness_friday

end FnExamples
