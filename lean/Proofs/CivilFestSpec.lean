/-
Proofs.CivilFestSpec — specification theorems for `Model.CivilFest`:
zodiac sign (`xingZuoIndex`) against the run table, and the weekday-rule facts behind
`solarFestivals` (occurrence number, last-weekday test, uniqueness of k-th / last weekday).
-/
import Model.CivilFest
import Proofs.CivilJdn
namespace Model
open Gen.Tables

/-- conventional first day of each of the twelve signs, in the order of the table XINGZUO (index 0 = 白羊 … 11 = 双鱼) -/
def signStart : List (Int × Int) := [(3,21),(4,20),(5,21),(6,22),(7,23),(8,23),(9,23),(10,24),(11,23),(12,22),(1,20),(2,19)]

def mdLt (a b : Int × Int) : Bool :=
  decide (a.1 < b.1) || (decide (a.1 = b.1) && decide (a.2 < b.2))

/-- `(m,d)` lies in the run of sign `i`: from `start_i` up to the day before `start_{i+1}`,
wrapping over the year end when `start_{i+1}` precedes `start_i` -/
def inRun (i : Nat) (m d : Int) : Bool :=
  let s := signStart.getD i (0, 0)
  let e := signStart.getD ((i + 1) % 12) (0, 0)
  if mdLt s e then !mdLt (m, d) s && mdLt (m, d) e
  else !mdLt (m, d) s || mdLt (m, d) e

/-- the sign whose run contains (m,d); `-1` if there were none -/
def specSign (m d : Int) : Int :=
  match (List.range 12).find? (fun i => inRun i m d) with
  | some i => (i : Int)
  | none => -1


/-- per-pair check: model = spec, range, and `specSign = i ↔ inRun i` for every `i < 12` -/
def xzOk (m d : Int) : Bool :=
  (xingZuoIndex m d == specSign m d) &&
  decide (0 ≤ xingZuoIndex m d) && decide (xingZuoIndex m d < 12) &&
  (List.range 12).all (fun i => (specSign m d == (i : Int)) == inRun i m d)

theorem xzCheck : ∀ mi, mi < 12 → ∀ di, di < 31 → xzOk ((mi : Nat) + 1 : Int) ((di : Nat) + 1 : Int) = true := by
  decide +kernel

theorem xzOk_all (m d : Int) (h1 : 1 ≤ m) (h2 : m ≤ 12) (h3 : 1 ≤ d) (h4 : d ≤ 31) : xzOk m d = true := by
  have h := xzCheck (m - 1).toNat (by omega) (d - 1).toNat (by omega)
  rwa [show (((m - 1).toNat : Nat) : Int) + 1 = m by omega,
    show (((d - 1).toNat : Nat) : Int) + 1 = d by omega] at h

/-- every month-day pair (all 12×31, so including all 366 real ones) gets exactly the sign of its run; the answer depends on month and day only by construction -/
theorem xingZuo_spec : ∀ m d : Int, 1 ≤ m → m ≤ 12 → 1 ≤ d → d ≤ 31 → xingZuoIndex m d = specSign m d := by
  intro m d h1 h2 h3 h4
  have h := xzOk_all m d h1 h2 h3 h4
  simp only [xzOk, Bool.and_eq_true, beq_iff_eq, decide_eq_true_eq] at h
  exact h.1.1.1

theorem xingZuo_range : ∀ m d : Int, 1 ≤ m → m ≤ 12 → 1 ≤ d → d ≤ 31 → 0 ≤ xingZuoIndex m d ∧ xingZuoIndex m d < 12 := by
  intro m d h1 h2 h3 h4
  have h := xzOk_all m d h1 h2 h3 h4
  simp only [xzOk, Bool.and_eq_true, beq_iff_eq, decide_eq_true_eq] at h
  exact ⟨h.1.1.2, h.1.2⟩

theorem xingZuo_table_len : Gen.Tables.SolarUtil.XINGZUO.length = 12 := by decide

/-- so the runs partition the pairs -/
theorem specSign_run (m d : Int) (h1 : 1 ≤ m) (h2 : m ≤ 12) (h3 : 1 ≤ d) (h4 : d ≤ 31) (i : Nat) (hi : i < 12) :
    specSign m d = (i : Int) ↔ inRun i m d = true := by
  have h := xzOk_all m d h1 h2 h3 h4
  simp only [xzOk, Bool.and_eq_true] at h
  have h' := h.2
  rw [List.all_eq_true] at h'
  have hi' := h' i (List.mem_range.mpr hi)
  rw [beq_iff_eq] at hi'
  rw [← hi', beq_iff_eq]

/-- the model's sign, stated directly as run membership -/
theorem xingZuo_run (m d : Int) (h1 : 1 ≤ m) (h2 : m ≤ 12) (h3 : 1 ≤ d) (h4 : d ≤ 31) (i : Nat) (hi : i < 12) :
    xingZuoIndex m d = (i : Int) ↔ inRun i m d = true := by
  rw [xingZuo_spec m d h1 h2 h3 h4]; exact specSign_run m d h1 h2 h3 h4 i hi

theorem week_lin (y m d : Int) (hm1 : 1 ≤ m) (hm : m ≤ 12) (hd1 : 1 ≤ d) (hd : d ≤ 31)
    (h : ¬ (y = 1582 ∧ m = 10)) : week y m d = (week y m 1 + (d - 1)) % 7 := by
  unfold week
  rw [jdn_lin_month y m d hm1 hm hd1 hd h]
  omega

theorem week_range (y m d : Int) : 0 ≤ week y m d ∧ week y m d < 7 := by
  unfold week; omega

/-- occurrence number of day d's weekday within its month = ceil(d/7) -/
def occurrence (y m d : Int) : Nat := ((List.range d.toNat).filter fun (i : Nat) => week y m ((i:Int)+1) == week y m d).length

/-- the same count on the residues: first-of-month weekday `w`, day `n` -/
def occW (w n : Int) : Nat :=
  ((List.range n.toNat).filter fun (i : Nat) => (w + (i : Int)) % 7 == (w + (n - 1)) % 7).length

theorem occCheck : ∀ w, w < 7 → ∀ n, n < 31 →
    (occW (w : Nat) ((n : Nat) + 1 : Int) : Int) = ((n : Nat) + 1 + 6 : Int) / 7 := by
  decide +kernel

theorem occW_eq (w n : Int) (hw0 : 0 ≤ w) (hw : w < 7) (hn1 : 1 ≤ n) (hn : n ≤ 31) :
    (occW w n : Int) = (n + 6) / 7 := by
  have h := occCheck w.toNat (by omega) (n - 1).toNat (by omega)
  rwa [show ((w.toNat : Nat) : Int) = w by omega,
    show (((n - 1).toNat : Nat) : Int) + 1 = n by omega] at h

theorem occurrence_eq (y m d : Int) (hv : validYmd y m d = true) (h : ¬ (y = 1582 ∧ m = 10)) : (occurrence y m d : Int) = (d + 6) / 7 := by
  obtain ⟨hm1, hm, hd1, hd, hdm⟩ := valid_parts_ymd y m d hv h
  have hwr := week_range y m 1
  rw [← occW_eq (week y m 1) d hwr.1 hwr.2 hd1 hd]
  unfold occurrence occW
  congr 2
  apply List.filter_congr
  intro i hi
  rw [List.mem_range] at hi
  rw [week_lin y m ((i : Int) + 1) hm1 hm (by omega) (by omega) h, week_lin y m d hm1 hm hd1 hd h,
    Int.add_sub_cancel]

/-- the "last weekday" test -/
theorem last_weekday_iff (y m d : Int) (hv : validYmd y m d = true) (h : ¬ (y = 1582 ∧ m = 10)) :
    d + 7 > daysOfMonth y m ↔ ∀ d', d < d' → d' ≤ daysOfMonth y m → week y m d' ≠ week y m d := by
  obtain ⟨hm1, hm, hd1, hd, hdm⟩ := valid_parts_ymd y m d hv h
  have hb := daysOfMonth_ge28 y m hm1 hm h
  have hwr := week_range y m 1
  constructor
  · intro hlast d' h1 h2
    rw [week_lin y m d' hm1 hm (by omega) (by omega) h, week_lin y m d hm1 hm hd1 hd h]
    omega
  · intro hall
    apply Classical.byContradiction
    intro hn
    have := hall (d + 7) (by omega) (by omega)
    rw [week_lin y m (d + 7) hm1 hm (by omega) (by omega) h, week_lin y m d hm1 hm hd1 hd h] at this
    omega

theorem weekday_unique (y m w a : Int) (hm1 : 1 ≤ m) (hm2 : m ≤ 12) (hw : 0 ≤ w ∧ w ≤ 6)
    (h : ¬ (y = 1582 ∧ m = 10)) (ha : 1 ≤ a) (ha' : a + 6 ≤ 31) :
    ∃ d, (a ≤ d ∧ d ≤ a + 6 ∧ week y m d = w) ∧ ∀ d', a ≤ d' → d' ≤ a + 6 → week y m d' = w → d' = d := by
  have hwr := week_range y m 1
  -- day `a` has weekday `week y m 1 + (a - 1)`; go on by the difference to `w`, taken mod 7
  refine ⟨a + (w - week y m 1 - (a - 1)) % 7, ⟨by omega, by omega, ?_⟩, fun d' h1 h2 e => ?_⟩
  · rw [week_lin y m _ hm1 hm2 (by omega) (by omega) h]
    omega
  · rw [week_lin y m d' hm1 hm2 (by omega) (by omega) h] at e
    omega

/-- a k-th-weekday festival (1 ≤ k ≤ 4) falls on exactly one day of its month in every year; so does a last-weekday festival -/
theorem kth_weekday_unique (y m k w : Int) (hm : 1 ≤ m ∧ m ≤ 12) (hk : 1 ≤ k ∧ k ≤ 4) (hw : 0 ≤ w ∧ w ≤ 6) (h : ¬ (y = 1582 ∧ m = 10)) :
    ∃ d, (1 ≤ d ∧ d ≤ daysOfMonth y m ∧ (d + 6) / 7 = k ∧ week y m d = w) ∧
      ∀ d', (1 ≤ d' ∧ d' ≤ daysOfMonth y m ∧ (d' + 6) / 7 = k ∧ week y m d' = w) → d' = d := by
  have hb := daysOfMonth_ge28 y m hm.1 hm.2 h
  obtain ⟨d, ⟨h1, h2, h3⟩, hu⟩ := weekday_unique y m w (7 * k - 6) hm.1 hm.2 hw h (by omega) (by omega)
  exact ⟨d, ⟨by omega, by omega, by omega, h3⟩, fun d' ⟨_, _, _, e⟩ => hu d' (by omega) (by omega) e⟩

theorem last_weekday_unique (y m w : Int) (hm : 1 ≤ m ∧ m ≤ 12) (hw : 0 ≤ w ∧ w ≤ 6) (h : ¬ (y = 1582 ∧ m = 10)) :
    ∃ d, (1 ≤ d ∧ d ≤ daysOfMonth y m ∧ d + 7 > daysOfMonth y m ∧ week y m d = w) ∧
      ∀ d', (1 ≤ d' ∧ d' ≤ daysOfMonth y m ∧ d' + 7 > daysOfMonth y m ∧ week y m d' = w) → d' = d := by
  have hb := daysOfMonth_ge28 y m hm.1 hm.2 h
  obtain ⟨d, ⟨h1, h2, h3⟩, hu⟩ := weekday_unique y m w (daysOfMonth y m - 6) hm.1 hm.2 hw h (by omega) (by omega)
  exact ⟨d, ⟨by omega, by omega, by omega, h3⟩, fun d' ⟨_, _, _, e⟩ => hu d' (by omega) (by omega) e⟩
/-- October 1582 (days 1–4 and 15–31): the one October key of the table is still hit exactly once -/
theorem oct1582_keys : (Gen.Tables.SolarUtil.WEEK_FESTIVAL_ikeys.filter (fun k => k.head? == some 10)).all (fun k =>
    ((List.range 31).filter (fun (i : Nat) => validYmd 1582 10 ((i:Int)+1) && (k == [10, (((i:Int)+1) + 6) / 7, week 1582 10 ((i:Int)+1)]))).length == 1) = true := by
  decide +kernel

/-- table facts (regenerated tables): keys are well-formed -/
theorem week_keys_ok : Gen.Tables.SolarUtil.WEEK_FESTIVAL_ikeys.all (fun k => match k with
    | [m, k, w] => decide (1 ≤ m) && decide (m ≤ 12) && decide (0 ≤ k) && decide (k ≤ 4) && decide (0 ≤ w) && decide (w ≤ 6) | _ => false) = true := by
  decide +kernel

theorem fixed_keys_ok : Gen.Tables.SolarUtil.FESTIVAL_ikeys.all (fun k => match k with
    | [m, d] => validYmd 2000 m d | _ => false) = true := by
  decide +kernel

theorem keys_len : Gen.Tables.SolarUtil.FESTIVAL_ikeys.length = Gen.Tables.SolarUtil.FESTIVAL.length ∧
    Gen.Tables.SolarUtil.WEEK_FESTIVAL_ikeys.length = Gen.Tables.SolarUtil.WEEK_FESTIVAL.length := by
  decide +kernel

/-- what `solarFestivals` reports, unfolded: fixed-date entry of (m,d), the k-th-weekday entry, and the last-weekday entry -/
theorem solarFestivals_mem (y m d : Int) (f : String) :
    f ∈ solarFestivals y m d ↔
      (lookupI Gen.Tables.SolarUtil.FESTIVAL_ikeys Gen.Tables.SolarUtil.FESTIVAL [m, d] = some f ∨
       lookupI Gen.Tables.SolarUtil.WEEK_FESTIVAL_ikeys Gen.Tables.SolarUtil.WEEK_FESTIVAL [m, (d + 6) / 7, week y m d] = some f ∨
       (d + 7 > daysOfMonth y m ∧ lookupI Gen.Tables.SolarUtil.WEEK_FESTIVAL_ikeys Gen.Tables.SolarUtil.WEEK_FESTIVAL [m, 0, week y m d] = some f)) := by
  unfold solarFestivals
  simp only [List.mem_append, or_assoc]
  generalize lookupI SolarUtil.FESTIVAL_ikeys SolarUtil.FESTIVAL [m, d] = a
  generalize lookupI SolarUtil.WEEK_FESTIVAL_ikeys SolarUtil.WEEK_FESTIVAL [m, (d + 6) / 7, week y m d] = b
  generalize lookupI SolarUtil.WEEK_FESTIVAL_ikeys SolarUtil.WEEK_FESTIVAL [m, 0, week y m d] = c
  by_cases hl : d + 7 > daysOfMonth y m <;> cases a <;> cases b <;> cases c <;> simp [hl, eq_comm]

end Model

open Model in
#print axioms xingZuo_spec
open Model in
#print axioms xingZuo_range
open Model in
#print axioms xingZuo_table_len
open Model in
#print axioms specSign_run
open Model in
#print axioms occurrence_eq
open Model in
#print axioms last_weekday_iff
open Model in
#print axioms kth_weekday_unique
open Model in
#print axioms last_weekday_unique
open Model in
#print axioms oct1582_keys
open Model in
#print axioms week_keys_ok
open Model in
#print axioms fixed_keys_ok
open Model in
#print axioms keys_len
open Model in
#print axioms solarFestivals_mem
