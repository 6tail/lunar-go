/-
Proofs.FnSStars — string-mode generated code (`Gen.FnS`) = model for the year / month nine-star functions of `Lunar`
(no atoms: the 60-cycle index is computed by the translated `LunarUtil.GetJiaZiIndex` on the translated pillar
strings), `LunarYear.GetNineStar / GetYuan / GetYun`, `Lunar.GetWeekInChinese` and the Tai Sui position
descriptions. Helper prefix `s7_`.
-/
import Proofs.FnSDecoders
import Proofs.FnS2
import Proofs.FnSNineStarObj
import Proofs.FnSYearObj

namespace FnSEq
open Gen.Fn (Err)
open Gen.Tables

/-- `Model.Lunar.yearNineStarOf` with the argument pillar given as an arbitrary STRING (what the Go function takes) -/
def s7_yearStarOfStr (l : Model.Lunar) (s : String) : Int :=
  let indexExact := Model.jiaZiIndexOfStr s + 1
  let index := Model.ganZhiIndex l.yearGanIndex l.yearZhiIndex + 1
  let yo := indexExact - index
  let yearOffset := if yo > 1 then yo - 60 else if yo < -1 then yo + 60 else yo
  let yuan := (Int.tdiv (l.year + yearOffset + 2696) 60).tmod 3
  let offset := (62 + yuan * 3 - indexExact).tmod 9
  (if offset = 0 then 9 else offset) - 1

theorem s7_yearNineStarOf_eq (l : Model.Lunar) (g z : Int) :
    l.yearNineStarOf g z = s7_yearStarOfStr l (Model.EightChar.pillarStr g z) := rfl

/-- the last step of both year-star functions: `if offset == 0 { offset = 9 }; NewNineStar(offset - 1)` -/
theorem s7_star_ite (o : Int) :
    (if 0 = o then (Except.ok ⟨9 - 1⟩ : Except Err Gen.FnS.NineStar) else .ok ⟨o - 1⟩)
      = .ok ⟨(if o = 0 then 9 else o) - 1⟩ := by
  simp only [eq_comm (a := (0 : Int)), apply_ite (fun v : Int => (Except.ok ⟨v - 1⟩ : Except Err Gen.FnS.NineStar))]

/-- for EVERY argument string (an unknown pillar has 60-cycle index −1, i.e. `indexExact = 0`) -/
theorem getYearNineStar_str_eq (l : Gen.FnS.Lunar) (terms : List Model.Solar) (s : String)
    (g0 : -1 ≤ l.yearGanIndex) (g1 : l.yearGanIndex < 10)
    (z0 : -1 ≤ l.yearZhiIndex) (z1 : l.yearZhiIndex < 12) :
    Gen.FnS.calendar_Lunar_getYearNineStar l s = .ok ⟨s7_yearStarOfStr (lunarToM l terms) s⟩ := by
  unfold Gen.FnS.calendar_Lunar_getYearNineStar
  rw [getJiaZiIndex_eq, sb_bind_ok, lunarGetYearInGanZhi_eq l g0 g1 z0 z1, sb_bind_ok, getJiaZiIndex_eq, sb_bind_ok]
  have hgz : Model.ganZhiIndex (lunarToM l terms).yearGanIndex (lunarToM l terms).yearZhiIndex
      = Model.jiaZiIndexOfStr (Model.EightChar.pillarStr l.yearGanIndex l.yearZhiIndex) := rfl
  simp only [newNineStar_eq, s7_yearStarOfStr, hgz, lunarToM_year, decide_eq_true_eq, s7_star_ite]
  -- the three branches of the year-offset correction
  split
  · rfl
  · split <;> rfl

/-- the pillar given by indices -/
theorem getYearNineStar_eq (l : Gen.FnS.Lunar) (terms : List Model.Solar) (yearInGanZhi : String) (g z : Int)
    (hs : yearInGanZhi = Model.EightChar.pillarStr g z)
    (g0 : -1 ≤ l.yearGanIndex) (g1 : l.yearGanIndex < 10)
    (z0 : -1 ≤ l.yearZhiIndex) (z1 : l.yearZhiIndex < 12) :
    Gen.FnS.calendar_Lunar_getYearNineStar l yearInGanZhi = .ok ⟨(lunarToM l terms).yearNineStarOf g z⟩ := by
  subst hs
  rw [getYearNineStar_str_eq l terms _ g0 g1 z0 z1, s7_yearNineStarOf_eq]

/-- outside the guard: the receiver's own lunar-year pillar cannot be rendered, Go panics (whatever the argument) -/
theorem getYearNineStar_panic (l : Gen.FnS.Lunar) (s : String)
    (h : l.yearGanIndex < -1 ∨ 10 ≤ l.yearGanIndex ∨ l.yearZhiIndex < -1 ∨ 12 ≤ l.yearZhiIndex) :
    Gen.FnS.calendar_Lunar_getYearNineStar l s = .error .panic := by
  unfold Gen.FnS.calendar_Lunar_getYearNineStar
  rw [getJiaZiIndex_eq, sb_bind_ok, sd_yearInGanZhi, sd_pillar_panic _ _ h]
  rfl

theorem lunarGetYearNineStarBySect_eq (l : Gen.FnS.Lunar) (terms : List Model.Solar) (sect : Int)
    (g0 : -1 ≤ l.yearGanIndex) (g1 : l.yearGanIndex < 10)
    (z0 : -1 ≤ l.yearZhiIndex) (z1 : l.yearZhiIndex < 12)
    (e0 : sect = 3 → -1 ≤ l.yearGanIndexExact ∧ l.yearGanIndexExact < 10 ∧
                      -1 ≤ l.yearZhiIndexExact ∧ l.yearZhiIndexExact < 12)
    (c0 : sect ≠ 1 → sect ≠ 3 → -1 ≤ l.yearGanIndexByLiChun ∧ l.yearGanIndexByLiChun < 10 ∧
                      -1 ≤ l.yearZhiIndexByLiChun ∧ l.yearZhiIndexByLiChun < 12) :
    Gen.FnS.calendar_Lunar_GetYearNineStarBySect l sect = .ok ⟨(lunarToM l terms).yearNineStar sect⟩ := by
  -- each sect reads one of the three year pillars and hands it to `getYearNineStar`
  have key (p : Except Err String) (g z : Int) (hp : p = .ok (Model.EightChar.pillarStr g z)) :
      (p >>= fun y => Gen.FnS.calendar_Lunar_getYearNineStar l y) = .ok ⟨(lunarToM l terms).yearNineStarOf g z⟩ := by
    rw [hp, sb_bind_ok, getYearNineStar_eq l terms _ g z rfl g0 g1 z0 z1]
  unfold Gen.FnS.calendar_Lunar_GetYearNineStarBySect Model.Lunar.yearNineStar
  simp only [decide_eq_true_eq]
  split
  · exact key _ _ _ (lunarGetYearInGanZhi_eq l g0 g1 z0 z1)
  · rename_i h1
    split
    · rename_i h3
      obtain ⟨a, b, c, d⟩ := e0 h3
      exact key _ _ _ (lunarGetYearInGanZhiExact_eq l a b c d)
    · rename_i h3
      obtain ⟨a, b, c, d⟩ := c0 h1 h3
      exact key _ _ _ (lunarGetYearInGanZhiByLiChun_eq l a b c d)

/-- the default (sect 2): Lichun-day year pillar -/
theorem lunarGetYearNineStar_eq (l : Gen.FnS.Lunar) (terms : List Model.Solar)
    (g0 : -1 ≤ l.yearGanIndex) (g1 : l.yearGanIndex < 10)
    (z0 : -1 ≤ l.yearZhiIndex) (z1 : l.yearZhiIndex < 12)
    (c0 : -1 ≤ l.yearGanIndexByLiChun) (c1 : l.yearGanIndexByLiChun < 10)
    (d0 : -1 ≤ l.yearZhiIndexByLiChun) (d1 : l.yearZhiIndexByLiChun < 12) :
    Gen.FnS.calendar_Lunar_GetYearNineStar l = .ok ⟨(lunarToM l terms).yearNineStar 2⟩ := by
  unfold Gen.FnS.calendar_Lunar_GetYearNineStar
  rw [lunarGetYearNineStarBySect_eq l terms 2 g0 g1 z0 z1 (by omega) (fun _ _ => ⟨c0, c1, d0, d1⟩)]

theorem getMonthNineStar_eq (l : Gen.FnS.Lunar) (yz mz : Int) :
    Gen.FnS.calendar_Lunar_getMonthNineStar l yz mz = .ok ⟨Model.monthNineStarOf yz mz⟩ := by
  unfold Gen.FnS.calendar_Lunar_getMonthNineStar Model.monthNineStarOf
  simp only [show Gen.Tables.LunarUtil.«BASE_MONTH_ZHI_INDEX» = 2 from rfl, newNineStar_eq]
  by_cases h : mz < 2 <;> simp [h]

theorem lunarGetMonthNineStarBySect_eq (l : Gen.FnS.Lunar) (terms : List Model.Solar) (sect : Int) :
    Gen.FnS.calendar_Lunar_GetMonthNineStarBySect l sect = .ok ⟨(lunarToM l terms).monthNineStar sect⟩ := by
  unfold Gen.FnS.calendar_Lunar_GetMonthNineStarBySect Model.Lunar.monthNineStar
  simp only [decide_eq_true_eq, getMonthNineStar_eq]
  split
  · rfl
  · split <;> rfl

theorem lunarGetMonthNineStar_eq (l : Gen.FnS.Lunar) (terms : List Model.Solar) :
    Gen.FnS.calendar_Lunar_GetMonthNineStar l = .ok ⟨(lunarToM l terms).monthNineStar 2⟩ := by
  unfold Gen.FnS.calendar_Lunar_GetMonthNineStar
  rw [lunarGetMonthNineStarBySect_eq l terms 2]

/-- the star of a `LunarYear` record with arbitrary (in-range) pillar fields -/
def s7_lunarYearStar (year g z : Int) : Int :=
  let index := Model.ganZhiIndex g z + 1
  let yuan := (Int.tdiv (year + 2696) 60).tmod 3
  let offset := (62 + yuan * 3 - index).tmod 9
  (if offset = 0 then 9 else offset) - 1

theorem s7_lunarYearNineStar_eq (year : Int) :
    Model.lunarYearNineStar year = s7_lunarYearStar year ((year - 4) % 10) ((year - 4) % 12) := rfl

theorem lunarYearGetNineStar_gen (ly : Gen.FnS.LunarYear) (g0 : -1 ≤ ly.ganIndex) (g1 : ly.ganIndex < 10)
    (z0 : -1 ≤ ly.zhiIndex) (z1 : ly.zhiIndex < 12) :
    Gen.FnS.calendar_LunarYear_GetNineStar ly = .ok ⟨s7_lunarYearStar ly.year ly.ganIndex ly.zhiIndex⟩ := by
  unfold Gen.FnS.calendar_LunarYear_GetNineStar
  rw [lunarYearGetGanZhi_eq ly g0 g1 z0 z1, sb_bind_ok, getJiaZiIndex_eq, sb_bind_ok]
  simp only [newNineStar_eq, decide_eq_true_eq, s7_star_ite]
  rfl

theorem lunarYearGetNineStar_panic (ly : Gen.FnS.LunarYear)
    (h : ly.ganIndex < -1 ∨ 10 ≤ ly.ganIndex ∨ ly.zhiIndex < -1 ∨ 12 ≤ ly.zhiIndex) :
    Gen.FnS.calendar_LunarYear_GetNineStar ly = .error .panic :=
  bind_panic (lunarYearGetGanZhi_panic ly h) _

/-- a record built by the library (`ganIndex = (year−4) mod 10`, `zhiIndex = (year−4) mod 12`, floor mod):
the pillar indices are then automatically in range, no further guard -/
theorem lunarYearGetNineStar_eq (ly : Gen.FnS.LunarYear)
    (hg : ly.ganIndex = (ly.year - 4) % 10) (hz : ly.zhiIndex = (ly.year - 4) % 12) :
    Gen.FnS.calendar_LunarYear_GetNineStar ly = .ok ⟨Model.lunarYearNineStar ly.year⟩ := by
  rw [lunarYearGetNineStar_gen ly (by omega) (by omega) (by omega) (by omega), s7_lunarYearNineStar_eq, hg, hz]

theorem s7_sidx_tmod (T : List String) (n q : Int) (hT : (T.length : Int) = n) (hn : 0 < n) (suf : String) :
    (Gen.FnS.sidx T (q.tmod n) >>= fun t => pure (t ++ suf))
      = if 0 ≤ q.tmod n then .ok (Model.strGetD T (q.tmod n) ++ suf) else .error .panic := by
  have hlt := Int.tmod_lt_of_pos q hn
  rw [sidx_total, hT]
  by_cases h : 0 ≤ q.tmod n
  · rw [if_pos ⟨h, hlt⟩, if_pos h]; rfl
  · rw [if_neg (fun c => h c.1), if_neg h]; rfl

/-- total: the index is `((year+2696) tdiv 60) tmod 3 ∈ (−3, 3)` -/
theorem lunarYearGetYuan_total (ly : Gen.FnS.LunarYear) :
    Gen.FnS.calendar_LunarYear_GetYuan ly
      = if 0 ≤ (Int.tdiv (ly.year + 2696) 60).tmod 3
        then .ok (Model.strGetD calendar.«YUAN» ((Int.tdiv (ly.year + 2696) 60).tmod 3) ++ "元")
        else .error .panic :=
  s7_sidx_tmod _ 3 _ rfl (by decide) _

theorem lunarYearGetYun_total (ly : Gen.FnS.LunarYear) :
    Gen.FnS.calendar_LunarYear_GetYun ly
      = if 0 ≤ (Int.tdiv (ly.year + 2696) 20).tmod 9
        then .ok (Model.strGetD calendar.«YUN» ((Int.tdiv (ly.year + 2696) 20).tmod 9) ++ "运")
        else .error .panic :=
  s7_sidx_tmod _ 9 _ rfl (by decide) _

theorem s7_tdiv_nonneg (a b : Int) (hb : 0 < b) (h : -b < a) : 0 ≤ a.tdiv b := by
  by_cases ha : 0 ≤ a
  · exact Int.tdiv_nonneg ha (Int.le_of_lt hb)
  · have h1 : (-a).tdiv b = 0 := Int.tdiv_eq_zero_of_lt (by omega) (by omega)
    rw [Int.neg_tdiv] at h1; omega

/-- the years for which the index is certainly non-negative: `year ≥ −2755` (then `(year+2696) tdiv 60 ≥ 0`) -/
theorem lunarYearGetYuan_eq (ly : Gen.FnS.LunarYear) (h : -2755 ≤ ly.year) :
    Gen.FnS.calendar_LunarYear_GetYuan ly
      = .ok (Model.strGetD calendar.«YUAN» ((Int.tdiv (ly.year + 2696) 60).tmod 3) ++ "元") := by
  rw [lunarYearGetYuan_total, if_pos]
  exact Int.tmod_nonneg _ (s7_tdiv_nonneg _ _ (by decide) (by omega))

/-- `year ≥ −2715` (then `(year+2696) tdiv 20 ≥ 0`) -/
theorem lunarYearGetYun_eq (ly : Gen.FnS.LunarYear) (h : -2715 ≤ ly.year) :
    Gen.FnS.calendar_LunarYear_GetYun ly
      = .ok (Model.strGetD calendar.«YUN» ((Int.tdiv (ly.year + 2696) 20).tmod 9) ++ "运") := by
  rw [lunarYearGetYun_total, if_pos]
  exact Int.tmod_nonneg _ (s7_tdiv_nonneg _ _ (by decide) (by omega))

/-- for `year ≥ −2696` Go's truncating operators are the floor ones -/
theorem lunarYearGetYuan_eq' (ly : Gen.FnS.LunarYear) (h : -2696 ≤ ly.year) :
    Gen.FnS.calendar_LunarYear_GetYuan ly
      = .ok (Model.strGetD calendar.«YUAN» ((ly.year + 2696) / 60 % 3) ++ "元") := by
  rw [lunarYearGetYuan_eq ly (by omega)]
  have h1 : Int.tdiv (ly.year + 2696) 60 = (ly.year + 2696) / 60 := Int.tdiv_eq_ediv_of_nonneg (by omega)
  rw [h1, Int.tmod_eq_emod_of_nonneg (by omega)]

theorem lunarYearGetYun_eq' (ly : Gen.FnS.LunarYear) (h : -2696 ≤ ly.year) :
    Gen.FnS.calendar_LunarYear_GetYun ly
      = .ok (Model.strGetD calendar.«YUN» ((ly.year + 2696) / 20 % 9) ++ "运") := by
  rw [lunarYearGetYun_eq ly (by omega)]
  have h1 : Int.tdiv (ly.year + 2696) 20 = (ly.year + 2696) / 20 := Int.tdiv_eq_ediv_of_nonneg (by omega)
  rw [h1, Int.tmod_eq_emod_of_nonneg (by omega)]

theorem lunarGetWeekInChinese_eq (l : Gen.FnS.Lunar) (h0 : 0 ≤ l.weekIndex) (h1 : l.weekIndex < 7) :
    Gen.FnS.calendar_Lunar_GetWeekInChinese l = .ok (Model.strGetD SolarUtil.«WEEK» l.weekIndex) := by
  unfold Gen.FnS.calendar_Lunar_GetWeekInChinese
  rw [lunarGetWeek_eq, sb_bind_ok, sidx_eq_strGetD SolarUtil.«WEEK» _ h0 h1]

theorem lunarGetWeekInChinese_panic (l : Gen.FnS.Lunar) (h : l.weekIndex < 0 ∨ 7 ≤ l.weekIndex) :
    Gen.FnS.calendar_Lunar_GetWeekInChinese l = .error .panic := by
  unfold Gen.FnS.calendar_Lunar_GetWeekInChinese
  rw [lunarGetWeek_eq, sb_bind_ok, sidx_panic SolarUtil.«WEEK» _ h]

section
variable (l : Gen.FnS.Lunar)

theorem lunarGetDayPositionTaiSuiDescBySect_eq (sect : Int)
    (g0 : -1 ≤ (if sect = 1 ∨ sect = 3 then l.dayGanIndex else l.dayGanIndexExact2))
    (g1 : (if sect = 1 ∨ sect = 3 then l.dayGanIndex else l.dayGanIndexExact2) < 10)
    (z0 : -1 ≤ (if sect = 1 ∨ sect = 3 then l.dayZhiIndex else l.dayZhiIndexExact2))
    (z1 : (if sect = 1 ∨ sect = 3 then l.dayZhiIndex else l.dayZhiIndexExact2) < 12)
    (hne : 0 ≤ (if sect = 1 ∨ sect = 3 then l.dayGanIndex else l.dayGanIndexExact2) ∨
           0 ≤ (if sect = 1 ∨ sect = 3 then l.dayZhiIndex else l.dayZhiIndexExact2))
    (y0 : 0 ≤ (if sect = 1 then l.yearZhiIndex else if sect = 3 then l.yearZhiIndexExact else l.yearZhiIndexByLiChun))
    (y1 : (if sect = 1 then l.yearZhiIndex else if sect = 3 then l.yearZhiIndexExact else l.yearZhiIndexByLiChun) < 12) :
    Gen.FnS.calendar_Lunar_GetDayPositionTaiSuiDescBySect l sect
      = .ok (Model.positionDesc (Model.dayPositionTaiSui
          (Model.EightChar.pillarStr (if sect = 1 ∨ sect = 3 then l.dayGanIndex else l.dayGanIndexExact2)
             (if sect = 1 ∨ sect = 3 then l.dayZhiIndex else l.dayZhiIndexExact2))
          (if sect = 1 then l.yearZhiIndex else if sect = 3 then l.yearZhiIndexExact else l.yearZhiIndexByLiChun))) :=
  bind_mlookupS (lunarGetDayPositionTaiSuiBySect_eq l sect g0 g1 z0 z1 hne y0 y1) _

theorem lunarGetDayPositionTaiSuiDesc_eq
    (g0 : -1 ≤ l.dayGanIndexExact2) (g1 : l.dayGanIndexExact2 < 10)
    (z0 : -1 ≤ l.dayZhiIndexExact2) (z1 : l.dayZhiIndexExact2 < 12)
    (hne : 0 ≤ l.dayGanIndexExact2 ∨ 0 ≤ l.dayZhiIndexExact2)
    (y0 : 0 ≤ l.yearZhiIndexByLiChun) (y1 : l.yearZhiIndexByLiChun < 12) :
    Gen.FnS.calendar_Lunar_GetDayPositionTaiSuiDesc l
      = .ok (Model.positionDesc (Model.dayPositionTaiSui
               (Model.EightChar.pillarStr l.dayGanIndexExact2 l.dayZhiIndexExact2) l.yearZhiIndexByLiChun)) :=
  -- the default is sect 2, at which the `if`s of the general form evaluate
  lunarGetDayPositionTaiSuiDescBySect_eq l 2 g0 g1 z0 z1 hne y0 y1

theorem lunarGetMonthPositionTaiSuiDescBySect_eq (sect : Int)
    (h : (if (if sect = 3 then l.monthZhiIndexExact else l.monthZhiIndex) - 2 < 0
            then (if sect = 3 then l.monthZhiIndexExact else l.monthZhiIndex) - 2 + 12
            else (if sect = 3 then l.monthZhiIndexExact else l.monthZhiIndex) - 2).tmod 4 ∈ [0, 2, 3] ∨
         (0 ≤ (if sect = 3 then l.monthGanIndexExact else l.monthGanIndex) ∧
          (if sect = 3 then l.monthGanIndexExact else l.monthGanIndex) < 10)) :
    Gen.FnS.calendar_Lunar_GetMonthPositionTaiSuiDescBySect l sect
      = .ok (Model.positionDesc (Model.monthPositionTaiSui (if sect = 3 then l.monthZhiIndexExact else l.monthZhiIndex)
               (if sect = 3 then l.monthGanIndexExact else l.monthGanIndex))) :=
  bind_mlookupS (lunarGetMonthPositionTaiSuiBySect_eq l sect h) _

/-- simple guard: month stem 0..9 -/
theorem lunarGetMonthPositionTaiSuiDesc_eq (g0 : 0 ≤ l.monthGanIndex) (g1 : l.monthGanIndex < 10) :
    Gen.FnS.calendar_Lunar_GetMonthPositionTaiSuiDesc l
      = .ok (Model.positionDesc (Model.monthPositionTaiSui l.monthZhiIndex l.monthGanIndex)) :=
  lunarGetMonthPositionTaiSuiDescBySect_eq l 2 (Or.inr ⟨g0, g1⟩)

/-- the stem is not read at all when `(monthZhi − 2 (+12)) tmod 4 ≠ 1` -/
theorem lunarGetMonthPositionTaiSuiDesc_eq'
    (h : (if l.monthZhiIndex - 2 < 0 then l.monthZhiIndex - 2 + 12 else l.monthZhiIndex - 2).tmod 4 ∈ [0, 2, 3]) :
    Gen.FnS.calendar_Lunar_GetMonthPositionTaiSuiDesc l
      = .ok (Model.positionDesc (Model.monthPositionTaiSui l.monthZhiIndex l.monthGanIndex)) :=
  lunarGetMonthPositionTaiSuiDescBySect_eq l 2 (Or.inl h)
end

/-! Ranges: the stars produced are valid `NineStar` indices (0..8), so the accessors of
`Proofs.FnSNineStarObj` apply to them -/

/-- the year-star formula is a valid index as soon as `yuan ≥ 0`, i.e. `Y > −60`; `idx` is a 60-cycle index + 1 -/
theorem s7_yuanStar_range (Y idx : Int) (hY : -60 < Y) (hi : idx ≤ 60) :
    0 ≤ (if (62 + (Int.tdiv Y 60).tmod 3 * 3 - idx).tmod 9 = 0 then 9
          else (62 + (Int.tdiv Y 60).tmod 3 * 3 - idx).tmod 9) - 1 ∧
    (if (62 + (Int.tdiv Y 60).tmod 3 * 3 - idx).tmod 9 = 0 then 9
      else (62 + (Int.tdiv Y 60).tmod 3 * 3 - idx).tmod 9) - 1 < 9 := by
  have hu : 0 ≤ (Int.tdiv Y 60).tmod 3 := Int.tmod_nonneg _ (s7_tdiv_nonneg _ _ (by decide) hY)
  have h0 : 0 ≤ (62 + (Int.tdiv Y 60).tmod 3 * 3 - idx).tmod 9 := Int.tmod_nonneg _ (by omega)
  have h1 : (62 + (Int.tdiv Y 60).tmod 3 * 3 - idx).tmod 9 < 9 := Int.tmod_lt_of_pos _ (by decide)
  split <;> omega

theorem s7_yearStarOfStr_range (l : Model.Lunar) (s : String) (hy : -2697 ≤ l.year) :
    0 ≤ s7_yearStarOfStr l s ∧ s7_yearStarOfStr l s < 9 := by
  have a0 := s2_jiaZiIndexOfStr_ge s
  have a1 := s2_jiaZiIndexOfStr_lt s
  have b0 : -1 ≤ Model.ganZhiIndex l.yearGanIndex l.yearZhiIndex := s2_jiaZiIndexOfStr_ge _
  have b1 : Model.ganZhiIndex l.yearGanIndex l.yearZhiIndex < 60 := s2_jiaZiIndexOfStr_lt _
  refine s7_yuanStar_range _ _ ?_ (by omega)
  -- the corrected year offset is at least −58
  split
  · omega
  · split <;> omega

/-- for lunar years ≥ −2697 the year star is a valid index -/
theorem yearNineStarOf_range (l : Model.Lunar) (g z : Int) (hy : -2697 ≤ l.year) :
    0 ≤ l.yearNineStarOf g z ∧ l.yearNineStarOf g z < 9 := by
  rw [s7_yearNineStarOf_eq]; exact s7_yearStarOfStr_range l _ hy

theorem yearNineStar_range (l : Model.Lunar) (sect : Int) (hy : -2697 ≤ l.year) :
    0 ≤ l.yearNineStar sect ∧ l.yearNineStar sect < 9 := by
  unfold Model.Lunar.yearNineStar
  split
  · exact yearNineStarOf_range l _ _ hy
  · split <;> exact yearNineStarOf_range l _ _ hy

theorem lunarYearNineStar_range (year : Int) (hy : -2755 ≤ year) :
    0 ≤ Model.lunarYearNineStar year ∧ Model.lunarYearNineStar year < 9 := by
  have b1 : Model.ganZhiIndex ((year - 4) % 10) ((year - 4) % 12) < 60 := s2_jiaZiIndexOfStr_lt _
  exact s7_yuanStar_range _ _ (by omega) (by omega)

/-- month star: valid index for a non-negative year branch and a month branch ≤ 18 (library: 0..11) -/
theorem monthNineStarOf_range (yz mz : Int) (hy : 0 ≤ yz) (hm : mz ≤ 18) :
    0 ≤ Model.monthNineStarOf yz mz ∧ Model.monthNineStarOf yz mz < 9 := by
  unfold Model.monthNineStarOf
  have h0 : 0 ≤ yz.tmod 3 := Int.tmod_nonneg _ hy
  have h1 : yz.tmod 3 < 3 := Int.tmod_lt_of_pos _ (by decide)
  simp only [show Gen.Tables.LunarUtil.«BASE_MONTH_ZHI_INDEX» = 2 from rfl]
  constructor
  · apply Int.tmod_nonneg; split <;> omega
  · exact Int.tmod_lt_of_pos _ (by decide)

section Axioms
#print axioms getYearNineStar_str_eq
#print axioms getYearNineStar_eq
#print axioms getYearNineStar_panic
#print axioms lunarGetYearNineStarBySect_eq
#print axioms lunarGetYearNineStar_eq
#print axioms getMonthNineStar_eq
#print axioms lunarGetMonthNineStarBySect_eq
#print axioms lunarGetMonthNineStar_eq
#print axioms lunarYearGetGanZhi_eq
#print axioms lunarYearGetGanZhi_panic
#print axioms lunarYearGetNineStar_gen
#print axioms lunarYearGetNineStar_panic
#print axioms lunarYearGetNineStar_eq
#print axioms lunarYearGetYuan_total
#print axioms lunarYearGetYun_total
#print axioms lunarYearGetYuan_eq
#print axioms lunarYearGetYun_eq
#print axioms lunarYearGetYuan_eq'
#print axioms lunarYearGetYun_eq'
#print axioms lunarGetWeekInChinese_eq
#print axioms lunarGetWeekInChinese_panic
#print axioms lunarGetDayPositionTaiSuiDescBySect_eq
#print axioms lunarGetDayPositionTaiSuiDesc_eq
#print axioms lunarGetMonthPositionTaiSuiDescBySect_eq
#print axioms lunarGetMonthPositionTaiSuiDesc_eq
#print axioms lunarGetMonthPositionTaiSuiDesc_eq'
#print axioms yearNineStarOf_range
#print axioms yearNineStar_range
#print axioms lunarYearNineStar_range
#print axioms monthNineStarOf_range
end Axioms

end FnSEq
