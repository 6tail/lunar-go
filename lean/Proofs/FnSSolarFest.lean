/-
Proofs.FnSSolarFest — `Solar.GetFestivals` of the string-mode generated code (atom `a1` = `solar.GetWeek()`) = the
model's `solarFestivals`: fixed date, k-th weekday of the month, last weekday of the month. Helpers carry the
prefix `sf_`.
-/
import Proofs.FnSFestBase
import Proofs.FnCivil1
import Model.Week

namespace FnSEq
open FnEq
open Gen.Fn (Err)
open Gen.Tables

theorem sf_SF_keys : SolarUtil.«FESTIVAL».map Prod.fst = SolarUtil.«FESTIVAL_ikeys».map sf_enc := by decide
theorem sf_SF_len : SolarUtil.«FESTIVAL_ikeys».all (fun a => a.length == 2) = true := by decide
theorem sf_SW_keys : SolarUtil.«WEEK_FESTIVAL».map Prod.fst = SolarUtil.«WEEK_FESTIVAL_ikeys».map sf_enc := by decide
theorem sf_SW_len : SolarUtil.«WEEK_FESTIVAL_ikeys».all (fun a => a.length == 3) = true := by decide

theorem sf_SF_lookup (m d : Int) :
    Model.lookupI SolarUtil.«FESTIVAL_ikeys» SolarUtil.«FESTIVAL» [m, d]
      = Model.lookupS SolarUtil.«FESTIVAL» (Gen.FnS.fmtD m ++ "-" ++ Gen.FnS.fmtD d) :=
  sf_lookupI_enc _ _ sf_SF_keys [m, d] sf_SF_len

theorem sf_SW_lookup (m k w : Int) :
    Model.lookupI SolarUtil.«WEEK_FESTIVAL_ikeys» SolarUtil.«WEEK_FESTIVAL» [m, k, w]
      = Model.lookupS SolarUtil.«WEEK_FESTIVAL» (Gen.FnS.fmtD m ++ "-" ++ Gen.FnS.fmtD k ++ "-" ++ Gen.FnS.fmtD w) :=
  sf_lookupI_enc _ _ sf_SW_keys [m, k, w] sf_SW_len

/-- the literal key "%d-0-%d" of the last-week rule is the 3-key with 0 in the middle -/
theorem sf_key0 (m w : Int) :
    Gen.FnS.fmtD m ++ "-0-" ++ Gen.FnS.fmtD w = Gen.FnS.fmtD m ++ "-" ++ Gen.FnS.fmtD 0 ++ "-" ++ Gen.FnS.fmtD w := by
  have h0 : Gen.FnS.fmtD 0 = "0" := by decide
  have h1 : "-0-" = "-" ++ ("0" ++ "-") := by decide
  rw [h0, h1]
  simp only [String.append_assoc]

/-- `int(math.Ceil(float64(day)/7))` as translated (`-((-day)/7)`) is the model's `(day+6)/7`, for every integer -/
theorem sf_ceil7 (x : Int) : -((-x) / 7) = (x + 6) / 7 := by omega

theorem sf_daysOfMonth_eq (y m : Int) (h1 : 1 ≤ m) (h12 : m ≤ 12) :
    Gen.FnS.SolarUtil_GetDaysOfMonth y m = .ok (Model.daysOfMonth y m) := getDaysOfMonth_eq y m h1 h12
theorem sf_daysOfMonth_panic (y m : Int) (h : m < 1 ∨ 12 < m) :
    Gen.FnS.SolarUtil_GetDaysOfMonth y m = .error .panic := getDaysOfMonth_panic y m h

/-- `[f]` for `some f`, `[]` for `none` (the model writes this as a `match`) -/
def sf_opt1 (o : Option String) : List String := match o with | some f => [f] | none => []

theorem sf_optList1 (T : List (String × String)) (k : String) :
    (if Gen.FnS.mhas T k = true then [Gen.FnS.mlookupS T k] else []) = sf_opt1 (Model.lookupS T k) := by
  rw [sf_optList]; cases Model.lookupS T k <;> rfl

/-- `Model.solarFestivals` with the weekday as a parameter (the Go atom) -/
def sf_solarFestivalsW (w y m d : Int) : List String :=
  sf_opt1 (Model.lookupI SolarUtil.«FESTIVAL_ikeys» SolarUtil.«FESTIVAL» [m, d]) ++
  sf_opt1 (Model.lookupI SolarUtil.«WEEK_FESTIVAL_ikeys» SolarUtil.«WEEK_FESTIVAL» [m, (d + 6) / 7, w]) ++
  (if d + 7 > Model.daysOfMonth y m then
    sf_opt1 (Model.lookupI SolarUtil.«WEEK_FESTIVAL_ikeys» SolarUtil.«WEEK_FESTIVAL» [m, 0, w]) else [])

theorem sf_solarFestivalsW_week (y m d : Int) :
    sf_solarFestivalsW (Model.week y m d) y m d = Model.solarFestivals y m d := rfl

/-- shape for an ARBITRARY value `w` of the atom, months 1..12 -/
theorem solarGetFestivals_shape (w : Int) (s : Gen.FnS.Solar) (h1 : 1 ≤ s.month) (h12 : s.month ≤ 12) :
    Gen.FnS.calendar_Solar_GetFestivals w s = .ok (sf_solarFestivalsW w s.year s.month s.day) := by
  unfold Gen.FnS.calendar_Solar_GetFestivals sf_solarFestivalsW
  simp only [sf_daysOfMonth_eq s.year s.month h1 h12, sb_bind_ok, sf_ceil7, sf_key0,
    sf_SF_lookup, sf_SW_lookup, ← sf_optList1]
  generalize Gen.FnS.mhas SolarUtil.«FESTIVAL» _ = b1
  generalize Gen.FnS.mlookupS SolarUtil.«FESTIVAL» _ = v1
  generalize Gen.FnS.mhas SolarUtil.«WEEK_FESTIVAL» (_ ++ Gen.FnS.fmtD ((s.day + 6) / 7) ++ _ ++ _) = b2
  generalize Gen.FnS.mlookupS SolarUtil.«WEEK_FESTIVAL» (_ ++ Gen.FnS.fmtD ((s.day + 6) / 7) ++ _ ++ _) = v2
  generalize Gen.FnS.mhas SolarUtil.«WEEK_FESTIVAL» _ = b3
  generalize Gen.FnS.mlookupS SolarUtil.«WEEK_FESTIVAL» _ = v3
  -- enumerate all truth values of the four tests
  by_cases hd : s.day + 7 > Model.daysOfMonth s.year s.month <;>
    cases b1 <;> cases b2 <;> cases b3 <;> simp [hd, pure, Except.pure]

/-- MAIN: with the atom bound to the model's weekday, `Solar.GetFestivals` is `Model.solarFestivals`
(fixed date, k-th weekday of the month with k = ⌈day/7⌉, last weekday of the month) -/
theorem solarGetFestivals_eq (s : Gen.FnS.Solar) (h1 : 1 ≤ s.month) (h12 : s.month ≤ 12) :
    Gen.FnS.calendar_Solar_GetFestivals (solarToM s).week s = .ok (Model.solarFestivals s.year s.month s.day) :=
  solarGetFestivals_shape _ s h1 h12

/-- atom as a hypothesis -/
theorem solarGetFestivals_eq' (a1 : Int) (s : Gen.FnS.Solar) (ha1 : a1 = Model.week s.year s.month s.day)
    (h1 : 1 ≤ s.month) (h12 : s.month ≤ 12) :
    Gen.FnS.calendar_Solar_GetFestivals a1 s = .ok (Model.solarFestivals s.year s.month s.day) := by
  subst ha1; exact solarGetFestivals_shape _ s h1 h12

/-- outside 1..12 `GetDaysOfMonth` indexes its table out of range: panic (the model is totalised there) -/
theorem solarGetFestivals_panic (a1 : Int) (s : Gen.FnS.Solar) (h : s.month < 1 ∨ 12 < s.month) :
    Gen.FnS.calendar_Solar_GetFestivals a1 s = .error .panic := by
  unfold Gen.FnS.calendar_Solar_GetFestivals
  simp only [sf_daysOfMonth_panic s.year s.month h]
  generalize Gen.FnS.mhas SolarUtil.«FESTIVAL» _ = b1
  generalize Gen.FnS.mhas SolarUtil.«WEEK_FESTIVAL» _ = b2
  cases b1 <;> cases b2 <;> rfl

end FnSEq
