/-
Proofs.FnSTaoFoto — Taoist / Buddhist dates: year offsets, the day-class predicates and the lunar-mansion
getters of the string-mode generated code = the model. Helpers carry the prefix `s4_`.
-/
import Proofs.FnSFmt
import Model.TaoFoto

namespace FnSEq
open Gen.Fn (Err)

theorem s4_absI_range (m : Int) : (1 ≤ Model.absI m ∧ Model.absI m ≤ 12) ↔ (-12 ≤ m ∧ m ≤ 12 ∧ m ≠ 0) := by
  unfold Model.absI; omega

section Tao
variable (t : Gen.FnS.Tao) (terms : List Model.Solar)

@[simp] theorem taoGetMonth_eq : Gen.FnS.calendar_Tao_GetMonth t = .ok t.lunar.month := rfl
@[simp] theorem taoGetDay_eq : Gen.FnS.calendar_Tao_GetDay t = .ok t.lunar.day := rfl
@[simp] theorem taoGetLunar_eq : Gen.FnS.calendar_Tao_GetLunar t = .ok t.lunar := rfl
theorem taoGetYear_eq : Gen.FnS.calendar_Tao_GetYear t = .ok (Model.taoYear (lunarToM t.lunar terms)) := rfl
theorem newTaoFromLunar_eq (l : Gen.FnS.Lunar) : Gen.FnS.calendar_NewTaoFromLunar l = .ok ⟨l⟩ := rfl

theorem taoIsDayMingWu_eq (h0 : -1 ≤ t.lunar.dayGanIndex) (h1 : t.lunar.dayGanIndex < 10) :
    Gen.FnS.calendar_Tao_IsDayMingWu t = .ok (Model.taoMingWu (lunarToM t.lunar terms)) := by
  unfold Gen.FnS.calendar_Tao_IsDayMingWu Model.taoMingWu
  rw [lunarGetDayGan_eq _ h0 h1, sb_bind_ok, strCompare_decide_eq]; rfl

theorem taoIsDayMingWu_panic (h : t.lunar.dayGanIndex < -1 ∨ 10 ≤ t.lunar.dayGanIndex) :
    Gen.FnS.calendar_Tao_IsDayMingWu t = .error .panic :=
  bind_panic (lunarGetDayGan_panic _ h) _

/-- `IsDayAnWu` on every input: the day branch's name against `AN_WU[|month| - 1]` -/
theorem s4_anWu_body : Gen.FnS.calendar_Tao_IsDayAnWu t = (do
    let z ← Gen.FnS.calendar_Lunar_GetDayZhi t.lunar
    let w ← Gen.FnS.sidx Gen.Tables.TaoUtil.«AN_WU» (Model.absI t.lunar.month - 1)
    pure (z == w)) := by
  unfold Gen.FnS.calendar_Tao_IsDayAnWu Model.absI
  simp only [taoGetMonth_eq, sb_bind_ok, strCompare_decide_eq, decide_eq_true_eq, Bool.beq_comm (a := _) (b := _)]
  split <;> rfl

theorem taoIsDayAnWu_eq (z0 : -1 ≤ t.lunar.dayZhiIndex) (z1 : t.lunar.dayZhiIndex < 12)
    (m0 : -12 ≤ t.lunar.month) (m1 : t.lunar.month ≤ 12) (m2 : t.lunar.month ≠ 0) :
    Gen.FnS.calendar_Tao_IsDayAnWu t = .ok (Model.taoAnWu (lunarToM t.lunar terms)) := by
  have ha := (s4_absI_range t.lunar.month).2 ⟨m0, m1, m2⟩
  rw [s4_anWu_body, lunarGetDayZhi_eq _ z0 z1, sb_bind_ok,
    sidx_in _ 12 rfl _ (by omega) (by omega)]
  rfl

theorem taoIsDayAnWu_panic
    (h : t.lunar.dayZhiIndex < -1 ∨ 12 ≤ t.lunar.dayZhiIndex ∨ t.lunar.month < -12 ∨ 12 < t.lunar.month ∨ t.lunar.month = 0) :
    Gen.FnS.calendar_Tao_IsDayAnWu t = .error .panic := by
  rw [s4_anWu_body]
  by_cases hz : t.lunar.dayZhiIndex < -1 ∨ 12 ≤ t.lunar.dayZhiIndex
  · exact bind_panic (lunarGetDayZhi_panic _ hz) _
  · have ha := (not_congr (s4_absI_range t.lunar.month)).2 (by omega)
    rw [lunarGetDayZhi_eq _ (by omega) (by omega), sb_bind_ok,
      sidx_out _ 12 rfl _ (by omega)]
    rfl

/-- `IsDayWu` = `IsDayMingWu() || IsDayAnWu()` with Go's short circuit: a 戊 day never looks at the month -/
theorem taoIsDayWu_eq_of_mingWu (g0 : -1 ≤ t.lunar.dayGanIndex) (g1 : t.lunar.dayGanIndex < 10)
    (hw : Model.taoMingWu (lunarToM t.lunar terms) = true) :
    Gen.FnS.calendar_Tao_IsDayWu t = .ok true := by
  unfold Gen.FnS.calendar_Tao_IsDayWu
  rw [taoIsDayMingWu_eq t terms g0 g1, hw]; rfl

theorem taoIsDayWu_eq (g0 : -1 ≤ t.lunar.dayGanIndex) (g1 : t.lunar.dayGanIndex < 10)
    (z0 : -1 ≤ t.lunar.dayZhiIndex) (z1 : t.lunar.dayZhiIndex < 12)
    (m0 : -12 ≤ t.lunar.month) (m1 : t.lunar.month ≤ 12) (m2 : t.lunar.month ≠ 0) :
    Gen.FnS.calendar_Tao_IsDayWu t = .ok (Model.taoWu (lunarToM t.lunar terms)) := by
  unfold Gen.FnS.calendar_Tao_IsDayWu Model.taoWu
  rw [taoIsDayMingWu_eq t terms g0 g1]
  cases Model.taoMingWu (lunarToM t.lunar terms)
  · simp only [sb_bind_ok, Bool.not_false, if_true, Bool.false_or]
    rw [taoIsDayAnWu_eq t terms z0 z1 m0 m1 m2]; rfl
  · rfl

theorem taoIsDayWu_panic_gan (h : t.lunar.dayGanIndex < -1 ∨ 10 ≤ t.lunar.dayGanIndex) :
    Gen.FnS.calendar_Tao_IsDayWu t = .error .panic :=
  bind_panic (taoIsDayMingWu_panic t h) _

theorem taoIsDayBaHui_eq (g0 : -1 ≤ t.lunar.dayGanIndex) (g1 : t.lunar.dayGanIndex < 10)
    (z0 : -1 ≤ t.lunar.dayZhiIndex) (z1 : t.lunar.dayZhiIndex < 12) :
    Gen.FnS.calendar_Tao_IsDayBaHui t = .ok (Model.taoBaHui (lunarToM t.lunar terms)) := by
  unfold Gen.FnS.calendar_Tao_IsDayBaHui Model.taoBaHui
  rw [lunarGetDayInGanZhi_eq _ g0 g1 z0 z1, ← mhas_eq]
  exact ret_bool _
end Tao

/-- the shape of a Go `for _, v := range T { if k == v { return true } } return false` loop -/
def s4_anyLoop (T : List String) (n : Nat) (k : String) : Except Err Bool := do
  for k3 in [0:n] do
    let v ← Gen.FnS.sidx T (k3 : Int)
    if decide ((Gen.FnS.strCompare k v) = 0) then
      return true
  return false

theorem s4_anyLoop_eq (T : List String) (k : String) : s4_anyLoop T T.length k = .ok (T.contains k) := by
  unfold s4_anyLoop
  rw [forIn_range_search T _ rfl k (none, ()) (fun _ => (some true, ())) _ fun i hi => searchStep T k i hi _ _]
  have : T.contains k = (T.findIdx? (· == k)).isSome := by
    rw [List.findIdx?_isSome, List.contains_eq_any_beq]; exact List.any_congr rfl fun _ => BEq.comm
  rw [this]
  cases T.findIdx? (· == k) <;> rfl

theorem s4_dec_beq (a d : Int) : decide (a = d) = (d == a) := decide_eq_decide.2 eq_comm

section Foto
variable (f : Gen.FnS.Foto) (terms : List Model.Solar)

@[simp] theorem fotoGetMonth_eq : Gen.FnS.calendar_Foto_GetMonth f = .ok f.lunar.month := rfl
@[simp] theorem fotoGetDay_eq : Gen.FnS.calendar_Foto_GetDay f = .ok f.lunar.day := rfl
@[simp] theorem fotoGetLunar_eq : Gen.FnS.calendar_Foto_GetLunar f = .ok f.lunar := rfl
theorem fotoGetYear_eq : Gen.FnS.calendar_Foto_GetYear f = .ok (Model.fotoYear (lunarToM f.lunar terms)) := rfl
theorem newFotoFromLunar_eq (l : Gen.FnS.Lunar) : Gen.FnS.calendar_NewFotoFromLunar l = .ok ⟨l⟩ := rfl

theorem fotoIsMonthZhai_eq :
    Gen.FnS.calendar_Foto_IsMonthZhai f = .ok (Model.fotoMonthZhai (lunarToM f.lunar terms)) := by
  unfold Gen.FnS.calendar_Foto_IsMonthZhai Model.fotoMonthZhai
  simp only [fotoGetMonth_eq, sb_bind_ok, lunarToM_month, s4_dec_beq]; rfl

theorem fotoIsDayZhaiShuoWang_eq :
    Gen.FnS.calendar_Foto_IsDayZhaiShuoWang f = .ok (Model.fotoZhaiShuoWang (lunarToM f.lunar terms)) := by
  unfold Gen.FnS.calendar_Foto_IsDayZhaiShuoWang Model.fotoZhaiShuoWang
  simp only [fotoGetDay_eq, sb_bind_ok, lunarToM_day, s4_dec_beq]; rfl

theorem fotoIsDayZhaiTen_eq :
    Gen.FnS.calendar_Foto_IsDayZhaiTen f = .ok (Model.fotoZhaiTen (lunarToM f.lunar terms)) := by
  unfold Gen.FnS.calendar_Foto_IsDayZhaiTen Model.fotoZhaiTen
  simp only [fotoGetDay_eq, sb_bind_ok, lunarToM_day, s4_dec_beq, List.contains_cons, List.contains_nil,
    Bool.or_false, Bool.or_assoc]; rfl

/-- guard-free: the 22 table reads never leave the table -/
theorem fotoIsDayZhaiGuanYin_eq :
    Gen.FnS.calendar_Foto_IsDayZhaiGuanYin f = .ok (Model.fotoZhaiGuanYin (lunarToM f.lunar terms)) :=
  s4_anyLoop_eq Gen.Tables.FotoUtil.«DAY_ZHAI_GUAN_YIN» _

theorem s4_idx_eq (T : List Int) (i : Int) (h0 : 0 ≤ i) (h1 : i < T.length) :
    Gen.Fn.idx T i = .ok (Model.listGetD T i) := by
  have h : i.toNat < T.length := by omega
  simp [Gen.Fn.idx, Model.listGetD, Int.not_lt.mpr h0, List.getD, List.getElem?_eq_getElem h, pure, Except.pure]

theorem s4_idx_panic (T : List Int) (i : Int) (h : i < 0 ∨ (T.length : Int) ≤ i) :
    Gen.Fn.idx T i = .error .panic := by
  unfold Gen.Fn.idx
  split
  · rfl
  · rw [List.getElem?_eq_none (by omega)]; rfl

theorem s4_getXiu_body (month day : Int) : Gen.FnS.FotoUtil_GetXiu month day = (do
    let t1 ← Gen.Fn.idx Gen.Tables.FotoUtil.«XIU_OFFSET» (Model.absI month - 1)
    let t2 ← Gen.FnS.sidx Gen.Tables.FotoUtil.«XIU_27» (Int.tmod ((t1 + day) - 1) 27)
    return t2) := by
  unfold Gen.FnS.FotoUtil_GetXiu Model.absI
  simp only [decide_eq_true_eq]
  split <;> rfl

/-- `FotoUtil.GetXiu(month, day)` on raw integers: exact description for every input -/
theorem fotoUtilGetXiu_total (month day : Int) :
    Gen.FnS.FotoUtil_GetXiu month day =
      if 1 ≤ Model.absI month ∧ Model.absI month ≤ 12 ∧
          0 ≤ Int.tmod (Model.listGetD Gen.Tables.FotoUtil.«XIU_OFFSET» (Model.absI month - 1) + day - 1) 27
      then .ok (Model.strGetD Gen.Tables.FotoUtil.«XIU_27»
        (Int.tmod (Model.listGetD Gen.Tables.FotoUtil.«XIU_OFFSET» (Model.absI month - 1) + day - 1) 27))
      else .error .panic := by
  rw [s4_getXiu_body]
  by_cases hr : 1 ≤ Model.absI month ∧ Model.absI month ≤ 12
  · rw [s4_idx_eq _ _ (by omega) (show _ < ((12 : Nat) : Int) by omega), sb_bind_ok]
    generalize Model.listGetD Gen.Tables.FotoUtil.«XIU_OFFSET» (Model.absI month - 1) = off
    have hlt : Int.tmod (off + day - 1) 27 < 27 := Int.tmod_lt_of_pos _ (by omega)
    by_cases hp : 0 ≤ Int.tmod (off + day - 1) 27
    · rw [if_pos ⟨hr.1, hr.2, hp⟩, sidx_in _ 27 rfl _ hp hlt]
    · rw [if_neg (by omega), sidx_out _ 27 rfl _ (by omega)]
  · rw [if_neg (by omega), s4_idx_panic _ _ (show _ ∨ ((12 : Nat) : Int) ≤ _ by omega)]; rfl

theorem s4_xiuoff_nonneg (i : Int) : 0 ≤ Model.listGetD Gen.Tables.FotoUtil.«XIU_OFFSET» i := by
  have hall : ∀ x ∈ Gen.Tables.FotoUtil.«XIU_OFFSET», (0 : Int) ≤ x := by decide
  unfold Model.listGetD List.getD
  split
  · omega
  · cases h : Gen.Tables.FotoUtil.«XIU_OFFSET»[i.toNat]? with
    | none => simp
    | some v => exact hall v (List.mem_of_getElem? h)

/-- `Foto.GetXiu`: months −12..12 ≠ 0 and a day ≥ 1 (then the `%` is non-negative) -/
theorem fotoGetXiu_eq (m0 : -12 ≤ f.lunar.month) (m1 : f.lunar.month ≤ 12) (m2 : f.lunar.month ≠ 0)
    (d0 : 1 ≤ f.lunar.day) :
    Gen.FnS.calendar_Foto_GetXiu f = .ok (Model.fotoXiu (lunarToM f.lunar terms)) := by
  unfold Gen.FnS.calendar_Foto_GetXiu
  simp only [fotoGetMonth_eq, fotoGetDay_eq, sb_bind_ok, fotoUtilGetXiu_total]
  have ha := (s4_absI_range f.lunar.month).2 ⟨m0, m1, m2⟩
  have hn := s4_xiuoff_nonneg (Model.absI f.lunar.month - 1)
  rw [if_pos ⟨ha.1, ha.2, Int.tmod_nonneg _ (by omega)⟩]; rfl

theorem fotoGetXiu_panic (h : f.lunar.month < -12 ∨ 12 < f.lunar.month ∨ f.lunar.month = 0) :
    Gen.FnS.calendar_Foto_GetXiu f = .error .panic := by
  unfold Gen.FnS.calendar_Foto_GetXiu
  simp only [fotoGetMonth_eq, fotoGetDay_eq, sb_bind_ok, fotoUtilGetXiu_total]
  have ha := (not_congr (s4_absI_range f.lunar.month)).2 (by omega)
  rw [if_neg (fun hh => ha ⟨hh.1, hh.2.1⟩)]

theorem fotoGetAnimal_eq (m0 : -12 ≤ f.lunar.month) (m1 : f.lunar.month ≤ 12) (m2 : f.lunar.month ≠ 0)
    (d0 : 1 ≤ f.lunar.day) :
    Gen.FnS.calendar_Foto_GetAnimal f = .ok (Model.animal (Model.fotoXiu (lunarToM f.lunar terms))) :=
  bind_mlookupS (fotoGetXiu_eq f terms m0 m1 m2 d0) _
theorem fotoGetGong_eq (m0 : -12 ≤ f.lunar.month) (m1 : f.lunar.month ≤ 12) (m2 : f.lunar.month ≠ 0)
    (d0 : 1 ≤ f.lunar.day) :
    Gen.FnS.calendar_Foto_GetGong f = .ok (Model.gong (Model.fotoXiu (lunarToM f.lunar terms))) :=
  bind_mlookupS (fotoGetXiu_eq f terms m0 m1 m2 d0) _
theorem fotoGetShou_eq (m0 : -12 ≤ f.lunar.month) (m1 : f.lunar.month ≤ 12) (m2 : f.lunar.month ≠ 0)
    (d0 : 1 ≤ f.lunar.day) :
    Gen.FnS.calendar_Foto_GetShou f = .ok (Model.shou (Model.fotoXiu (lunarToM f.lunar terms))) :=
  bind_mlookupS (fotoGetGong_eq f terms m0 m1 m2 d0) _
theorem fotoGetXiuLuck_eq (m0 : -12 ≤ f.lunar.month) (m1 : f.lunar.month ≤ 12) (m2 : f.lunar.month ≠ 0)
    (d0 : 1 ≤ f.lunar.day) :
    Gen.FnS.calendar_Foto_GetXiuLuck f = .ok (Model.xiuLuck (Model.fotoXiu (lunarToM f.lunar terms))) :=
  bind_mlookupS (fotoGetXiu_eq f terms m0 m1 m2 d0) _
theorem fotoGetXiuSong_eq (m0 : -12 ≤ f.lunar.month) (m1 : f.lunar.month ≤ 12) (m2 : f.lunar.month ≠ 0)
    (d0 : 1 ≤ f.lunar.day) :
    Gen.FnS.calendar_Foto_GetXiuSong f = .ok (Model.xiuSong (Model.fotoXiu (lunarToM f.lunar terms))) :=
  bind_mlookupS (fotoGetXiu_eq f terms m0 m1 m2 d0) _
theorem fotoGetZheng_eq (m0 : -12 ≤ f.lunar.month) (m1 : f.lunar.month ≤ 12) (m2 : f.lunar.month ≠ 0)
    (d0 : 1 ≤ f.lunar.day) :
    Gen.FnS.calendar_Foto_GetZheng f = .ok (Model.zheng (Model.fotoXiu (lunarToM f.lunar terms))) :=
  bind_mlookupS (fotoGetXiu_eq f terms m0 m1 m2 d0) _
end Foto

end FnSEq
