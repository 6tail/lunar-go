/-
Proofs.FnSJieQi — the day-term getters of the string-mode code (`Lunar.GetJie`, `Lunar.GetQi`,
`convertJieQi`) = the model (`Model.Lunar.jie`, `Model.Lunar.qi`, `Model.convertJieQi`).  Helpers carry the prefix
`s8_`; so do four results: `s8_atomOK_iff`, `s8_sameDay_eq`, and the parity of the MODEL's getters
`s8_model_jie_parity`, `s8_model_qi_parity` (the counterpart of `lunarGetJie_parity` / `lunarGetQi_parity`).

Both getters scan every other entry of a table `E` of (name, stamp) pairs whose names are `JIE_QI_IN_USE`
and whose stamps are what the atom returns (`lunarGetJie_scan`, `lunarGetQi_scan`).  With `E` the model's
`termEntries` this is the model; with `E` the table of an arbitrary atom it is the hypothesis-free form.
-/
import Proofs.FnSBase
import Model.JieQi

namespace FnSEq
open Gen.Fn (Err)
open Gen.Tables.calendar (JIE_QI_IN_USE)

theorem convertJieQi_eq (s : String) :
    Gen.FnS.calendar_convertJieQi s = .ok (Model.convertJieQi s) := by
  unfold Gen.FnS.calendar_convertJieQi Model.convertJieQi
  simp only [strCompare_decide_eq, apply_ite Except.ok]
  rfl

theorem s8_everyOtherE_drop {E : List (String × Model.Solar)} (i : Nat) (hi : i < E.length) :
    Model.everyOtherE (E.drop i) = E[i] :: Model.everyOtherE (E.drop (i + 2)) := by
  rw [List.drop_eq_getElem_cons hi]
  by_cases h1 : i + 1 < E.length
  · rw [List.drop_eq_getElem_cons h1]; rfl
  · rw [List.drop_of_length_le (by omega : E.length ≤ i + 1),
        List.drop_of_length_le (by omega : E.length ≤ i + 2)]; rfl

/-- The loop body `f` is a parameter described by `hf`, so that the lemma applies to the body as the `do` notation
elaborates it (`hf` then holds by `rfl`). -/
theorem s8_breakLoop (E : List (String × Model.Solar)) (T : List String) (hT : E.map (·.1) = T)
    (a1 : Int → Gen.FnS.Solar) (hE : ∀ (i : Nat) (h : i < E.length), solarToM (a1 (i : Int)) = E[i].2)
    (today : Model.Solar) (lo n : Nat) (hn : lo + 2 * n = E.length ∨ lo + 2 * n = E.length + 1)
    (f : Nat → String → Except Err (ForInStep String))
    (hf : ∀ k acc, f k acc = (do
        let t ← Gen.FnS.sidx T ((lo : Int) + 2 * (k : Int))
        if Model.sameDay (solarToM (a1 ((lo : Int) + 2 * (k : Int)))) today = true then pure (ForInStep.done t)
        else pure (ForInStep.yield acc))) :
    (forIn (List.range' 0 n) "" f >>= Gen.FnS.calendar_convertJieQi)
      = .ok (match (Model.everyOtherE (E.drop lo)).find? (fun e => Model.sameDay e.2 today) with
              | some e => Model.convertJieQi e.1 | none => "") := by
  subst hT
  -- the trips from `start` on scan every other entry from `lo + 2 * start` on
  have scan : ∀ (n start : Nat),
      (lo + 2 * (start + n) = E.length ∨ lo + 2 * (start + n) = E.length + 1) →
      forIn (List.range' start n) "" f
        = .ok (match (Model.everyOtherE (E.drop (lo + 2 * start))).find? (fun e => Model.sameDay e.2 today) with
                | some e => e.1 | none => "") := by
    intro n
    induction n with
    | zero => intro start h; rw [List.drop_of_length_le (by omega)]; rfl
    | succ n ih =>
      intro start h
      have hlt : lo + 2 * start < E.length := by omega
      have hidx : ((lo : Int) + 2 * (start : Int)) = ((lo + 2 * start : Nat) : Int) := by omega
      have hT : Gen.FnS.sidx (E.map (·.1)) ((lo : Int) + 2 * (start : Int)) = .ok E[lo + 2 * start].1 := by
        rw [hidx, sidx_nat _ _ (by rw [List.length_map]; exact hlt), List.getElem_map]
      have hA : solarToM (a1 ((lo : Int) + 2 * (start : Int))) = E[lo + 2 * start].2 := by
        rw [hidx]; exact hE _ hlt
      rw [List.range'_succ, List.forIn_cons, hf, hT, hA, s8_everyOtherE_drop _ hlt, List.find?_cons, sb_bind_ok]
      cases hv : Model.sameDay E[lo + 2 * start].2 today
      · exact ih (start + 1) (by omega)
      · rfl
  rw [scan n 0 (by omega), sb_bind_ok]
  cases (Model.everyOtherE (E.drop lo)).find? (fun e => Model.sameDay e.2 today) <;> exact convertJieQi_eq _

section
variable {E : List (String × Model.Solar)} (hT : E.map (·.1) = JIE_QI_IN_USE)
  {a1 : Int → Gen.FnS.Solar} (hE : ∀ (i : Nat) (h : i < E.length), solarToM (a1 (i : Int)) = E[i].2)
  (l : Gen.FnS.Lunar)
include hT hE

/-- 16 trips from entry 0 -/
theorem lunarGetJie_scan :
    Gen.FnS.calendar_Lunar_GetJie a1 l
      = .ok (match (Model.everyOtherE E).find? (fun e => Model.sameDay e.2 (solarToM l.solar)) with
              | some e => Model.convertJieQi e.1 | none => "") := by
  have hl : E.length = 31 := by rw [← List.length_map (·.1), hT]; rfl
  unfold Gen.FnS.calendar_Lunar_GetJie
  simp only [forIn_range]
  exact s8_breakLoop E _ hT a1 hE _ 0 16 (by omega) _ (fun _ _ => rfl)

/-- 15 trips from entry 1 -/
theorem lunarGetQi_scan :
    Gen.FnS.calendar_Lunar_GetQi a1 l
      = .ok (match (Model.everyOtherE (E.drop 1)).find? (fun e => Model.sameDay e.2 (solarToM l.solar)) with
              | some e => Model.convertJieQi e.1 | none => "") := by
  have hl : E.length = 31 := by rw [← List.length_map (·.1), hT]; rfl
  unfold Gen.FnS.calendar_Lunar_GetQi
  simp only [forIn_range]
  exact s8_breakLoop E _ hT a1 hE _ 1 15 (by omega) _ (fun _ _ => rfl)

end

theorem s8_termEntries_length (terms : List Model.Solar) : (Model.termEntries terms).length = 31 :=
  List.length_map _

theorem s8_termEntries_names (terms : List Model.Solar) :
    (Model.termEntries terms).map (·.1) = JIE_QI_IN_USE := by
  unfold Model.termEntries
  rw [List.map_map]
  exact List.map_id _

theorem s8_termEntries_stamp (terms : List Model.Solar) (i : Nat) (hi : i < (Model.termEntries terms).length) :
    (Model.termEntries terms)[i].2 = Model.termByName terms (JIE_QI_IN_USE.getD i "") := by
  have hl : i < JIE_QI_IN_USE.length := by rw [s8_termEntries_length] at hi; exact hi
  simp [Model.termEntries, List.getD, List.getElem?_eq_getElem hl]

/-- the meaning of the atom `a1 i` = `lunar.jieQi[JIE_QI_IN_USE[i]]`: it lists the model's term table -/
def s8_atomOK (a1 : Int → Gen.FnS.Solar) (terms : List Model.Solar) : Prop :=
  ∀ i : Int, 0 ≤ i → i < 31 →
    solarToM (a1 i) = Model.termByName terms (Gen.Tables.calendar.«JIE_QI_IN_USE».getD i.toNat "")

/-- the same hypothesis in the shape of `Model.termEntries` -/
theorem s8_atomOK_iff (a1 : Int → Gen.FnS.Solar) (terms : List Model.Solar) :
    s8_atomOK a1 terms ↔ ∀ (i : Nat) (hi : i < (Model.termEntries terms).length),
      solarToM (a1 (i : Int)) = (Model.termEntries terms)[i].2 := by
  simp only [s8_termEntries_stamp, s8_termEntries_length]
  constructor
  · intro h i hi
    exact h i (by omega) (by omega)
  · intro h i h0 h1
    have := h i.toNat (by omega)
    rwa [Int.toNat_of_nonneg h0] at this

theorem s8_sameDay_eq (d t : Gen.FnS.Solar) :
    ((decide (d.year = t.year) && decide (d.month = t.month)) && decide (d.day = t.day))
      = Model.sameDay (solarToM d) (solarToM t) := rfl

theorem lunarGetJie_eq (a1 : Int → Gen.FnS.Solar) (l : Gen.FnS.Lunar) (terms : List Model.Solar)
    (ha : ∀ i : Int, 0 ≤ i → i < 31 →
      solarToM (a1 i) = Model.termByName terms (Gen.Tables.calendar.«JIE_QI_IN_USE».getD i.toNat "")) :
    Gen.FnS.calendar_Lunar_GetJie a1 l = .ok ((lunarToM l terms).jie) :=
  lunarGetJie_scan (s8_termEntries_names terms) ((s8_atomOK_iff a1 terms).1 ha) l

theorem lunarGetQi_eq (a1 : Int → Gen.FnS.Solar) (l : Gen.FnS.Lunar) (terms : List Model.Solar)
    (ha : ∀ i : Int, 0 ≤ i → i < 31 →
      solarToM (a1 i) = Model.termByName terms (Gen.Tables.calendar.«JIE_QI_IN_USE».getD i.toNat "")) :
    Gen.FnS.calendar_Lunar_GetQi a1 l = .ok ((lunarToM l terms).qi) :=
  lunarGetQi_scan (s8_termEntries_names terms) ((s8_atomOK_iff a1 terms).1 ha) l

/-- the table the generated loops actually scan, for an ARBITRARY atom: names from `JIE_QI_IN_USE`,
stamps from the atom -/
def s8_rawEntries (a1 : Int → Gen.FnS.Solar) : List (String × Model.Solar) :=
  (List.range 31).map fun i => (Gen.Tables.calendar.«JIE_QI_IN_USE».getD i "", solarToM (a1 (i : Int)))

theorem s8_rawEntries_names (a1 : Int → Gen.FnS.Solar) :
    (s8_rawEntries a1).map (·.1) = JIE_QI_IN_USE := by
  unfold s8_rawEntries
  rw [List.map_map]
  rfl

theorem s8_rawEntries_atom (a1 : Int → Gen.FnS.Solar) :
    ∀ (i : Nat) (hi : i < (s8_rawEntries a1).length), solarToM (a1 (i : Int)) = (s8_rawEntries a1)[i].2 := by
  intro i hi; simp [s8_rawEntries]

/-- `GetJie` for an arbitrary atom (no hypothesis at all) -/
theorem lunarGetJie_raw (a1 : Int → Gen.FnS.Solar) (l : Gen.FnS.Lunar) :
    Gen.FnS.calendar_Lunar_GetJie a1 l
      = .ok (match (Model.everyOtherE (s8_rawEntries a1)).find? (fun e => Model.sameDay e.2 (solarToM l.solar)) with
              | some e => Model.convertJieQi e.1 | none => "") :=
  lunarGetJie_scan (s8_rawEntries_names a1) (s8_rawEntries_atom a1) l

/-- `GetQi` for an arbitrary atom -/
theorem lunarGetQi_raw (a1 : Int → Gen.FnS.Solar) (l : Gen.FnS.Lunar) :
    Gen.FnS.calendar_Lunar_GetQi a1 l
      = .ok (match (Model.everyOtherE ((s8_rawEntries a1).drop 1)).find?
                (fun e => Model.sameDay e.2 (solarToM l.solar)) with
              | some e => Model.convertJieQi e.1 | none => "") :=
  lunarGetQi_scan (s8_rawEntries_names a1) (s8_rawEntries_atom a1) l

theorem s8_mem_everyOtherE (L : List (String × Model.Solar)) :
    ∀ e ∈ Model.everyOtherE L, ∃ k : Nat, L[2 * k]? = some e := by
  induction L using Model.everyOtherE.induct with
  | case1 a b r ih =>
    intro e h
    simp only [Model.everyOtherE, List.mem_cons] at h
    rcases h with rfl | h
    · exact ⟨0, rfl⟩
    · obtain ⟨k, hk⟩ := ih e h
      exact ⟨k + 1, by rw [Nat.mul_add, List.getElem?_cons_succ, List.getElem?_cons_succ]; exact hk⟩
  | case2 a =>
    intro e h
    exact ⟨0, by rw [List.mem_singleton.mp h]; rfl⟩
  | case3 => intro e h; cases h

theorem s8_scan_parity (E : List (String × Model.Solar)) (lo : Nat)
    (p : String × Model.Solar → Bool) (s : String) (hs : s ≠ "")
    (h : s = match (Model.everyOtherE (E.drop lo)).find? p with
               | some e => Model.convertJieQi e.1 | none => "") :
    ∃ k : Nat, 2 * k + lo < (E.map (·.1)).length ∧ s = Model.convertJieQi ((E.map (·.1)).getD (2 * k + lo) "") := by
  cases hfind : (Model.everyOtherE (E.drop lo)).find? p with
  | none => rw [hfind] at h; exact absurd h hs
  | some e =>
    obtain ⟨k, hk⟩ := s8_mem_everyOtherE _ e (List.mem_of_find?_eq_some hfind)
    rw [List.getElem?_drop, Nat.add_comm] at hk
    refine ⟨k, ?_, ?_⟩
    · rw [List.length_map]
      exact Nat.lt_of_not_le fun hge => by rw [List.getElem?_eq_none hge] at hk; cases hk
    · rw [h, hfind]
      simp [List.getD, hk]

theorem s8_convert_empty : Model.convertJieQi "" = "" := by decide

/-- COROLLARY (Jie filter parity, on the generated code, any atom): a non-empty `GetJie` is the converted
name of an EVEN-indexed entry of `JIE_QI_IN_USE` -/
theorem lunarGetJie_parity (a1 : Int → Gen.FnS.Solar) (l : Gen.FnS.Lunar) (s : String)
    (h : Gen.FnS.calendar_Lunar_GetJie a1 l = .ok s) (hs : s ≠ "") :
    ∃ k : Nat, 2 * k < 31 ∧
      s = Model.convertJieQi (Gen.Tables.calendar.«JIE_QI_IN_USE».getD (2 * k) "") :=
  s8_rawEntries_names a1 ▸ s8_scan_parity _ 0 _ s hs (Except.ok.inj ((lunarGetJie_raw a1 l).symm.trans h)).symm

/-- COROLLARY (Qi filter parity): a non-empty `GetQi` is the converted name of an ODD-indexed entry -/
theorem lunarGetQi_parity (a1 : Int → Gen.FnS.Solar) (l : Gen.FnS.Lunar) (s : String)
    (h : Gen.FnS.calendar_Lunar_GetQi a1 l = .ok s) (hs : s ≠ "") :
    ∃ k : Nat, 2 * k + 1 < 31 ∧
      s = Model.convertJieQi (Gen.Tables.calendar.«JIE_QI_IN_USE».getD (2 * k + 1) "") :=
  s8_rawEntries_names a1 ▸ s8_scan_parity _ 1 _ s hs (Except.ok.inj ((lunarGetQi_raw a1 l).symm.trans h)).symm

/-- the getters never fail, whatever the atom -/
theorem lunarGetJie_ok (a1 : Int → Gen.FnS.Solar) (l : Gen.FnS.Lunar) :
    ∃ s, Gen.FnS.calendar_Lunar_GetJie a1 l = .ok s := ⟨_, lunarGetJie_raw a1 l⟩
theorem lunarGetQi_ok (a1 : Int → Gen.FnS.Solar) (l : Gen.FnS.Lunar) :
    ∃ s, Gen.FnS.calendar_Lunar_GetQi a1 l = .ok s := ⟨_, lunarGetQi_raw a1 l⟩

/-- the same parity on the model side -/
theorem s8_model_jie_parity (l : Model.Lunar) (hs : l.jie ≠ "") :
    ∃ k : Nat, 2 * k < 31 ∧
      l.jie = Model.convertJieQi (Gen.Tables.calendar.«JIE_QI_IN_USE».getD (2 * k) "") :=
  s8_termEntries_names l.terms ▸ s8_scan_parity _ 0 _ _ hs rfl

theorem s8_model_qi_parity (l : Model.Lunar) (hs : l.qi ≠ "") :
    ∃ k : Nat, 2 * k + 1 < 31 ∧
      l.qi = Model.convertJieQi (Gen.Tables.calendar.«JIE_QI_IN_USE».getD (2 * k + 1) "") :=
  s8_termEntries_names l.terms ▸ s8_scan_parity _ 1 _ _ hs rfl

section Axioms
#print axioms convertJieQi_eq
#print axioms s8_breakLoop
#print axioms s8_atomOK_iff
#print axioms lunarGetJie_eq
#print axioms lunarGetQi_eq
#print axioms lunarGetJie_raw
#print axioms lunarGetQi_raw
#print axioms lunarGetJie_parity
#print axioms lunarGetQi_parity
#print axioms s8_model_jie_parity
#print axioms s8_model_qi_parity
end Axioms

end FnSEq
