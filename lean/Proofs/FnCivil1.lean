/-
Proofs.FnCivil1 — equivalence of the machine-generated `Gen.Fn` civil-date functions with the
hand-written model `Model.Civil`.  Helper lemmas are prefixed `c1_`.
-/
import Model.Civil
import Gen.Fn

namespace FnEq

def toM (s : Gen.Fn.Solar) : Model.Solar := ⟨s.year, s.month, s.day, s.hour, s.minute, s.second⟩
def ofM (s : Model.Solar) : Gen.Fn.Solar := ⟨s.year, s.month, s.day, s.hour, s.minute, s.second⟩

@[simp] theorem toM_ofM (s : Model.Solar) : toM (ofM s) = s := rfl
@[simp] theorem ofM_toM (s : Gen.Fn.Solar) : ofM (toM s) = s := rfl
@[simp] theorem toM_year (s : Gen.Fn.Solar) : (toM s).year = s.year := rfl
@[simp] theorem toM_month (s : Gen.Fn.Solar) : (toM s).month = s.month := rfl
@[simp] theorem toM_day (s : Gen.Fn.Solar) : (toM s).day = s.day := rfl
@[simp] theorem toM_hour (s : Gen.Fn.Solar) : (toM s).hour = s.hour := rfl
@[simp] theorem toM_minute (s : Gen.Fn.Solar) : (toM s).minute = s.minute := rfl
@[simp] theorem toM_second (s : Gen.Fn.Solar) : (toM s).second = s.second := rfl
@[simp] theorem ofM_year (s : Model.Solar) : (ofM s).year = s.year := rfl
@[simp] theorem ofM_month (s : Model.Solar) : (ofM s).month = s.month := rfl
@[simp] theorem ofM_day (s : Model.Solar) : (ofM s).day = s.day := rfl
@[simp] theorem ofM_hour (s : Model.Solar) : (ofM s).hour = s.hour := rfl
@[simp] theorem ofM_minute (s : Model.Solar) : (ofM s).minute = s.minute := rfl
@[simp] theorem ofM_second (s : Model.Solar) : (ofM s).second = s.second := rfl
@[simp] theorem ofM_mk (y m d h mi s : Int) : ofM ⟨y, m, d, h, mi, s⟩ = ⟨y, m, d, h, mi, s⟩ := rfl
@[simp] theorem toM_mk (y m d h mi s : Int) : toM ⟨y, m, d, h, mi, s⟩ = ⟨y, m, d, h, mi, s⟩ := rfl
theorem toM_inj {a b : Gen.Fn.Solar} (h : toM a = toM b) : a = b := by
  have := congrArg ofM h; simpa using this
theorem ofM_inj {a b : Model.Solar} (h : ofM a = ofM b) : a = b := by
  have := congrArg toM h; simpa using this

@[simp] theorem c1_throw_bind {α β : Type} (e : Gen.Fn.Err) (f : α → Except Gen.Fn.Err β) :
    ((throw e : Except Gen.Fn.Err α) >>= f) = .error e := rfl
@[simp] theorem c1_error_bind {α β : Type} (e : Gen.Fn.Err) (f : α → Except Gen.Fn.Err β) :
    ((Except.error e : Except Gen.Fn.Err α) >>= f) = .error e := rfl
@[simp] theorem c1_ok_bind {α β : Type} (a : α) (f : α → Except Gen.Fn.Err β) :
    ((Except.ok a : Except Gen.Fn.Err α) >>= f) = f a := rfl
@[simp] theorem c1_pure {α : Type} (a : α) : (pure a : Except Gen.Fn.Err α) = .ok a := rfl
@[simp] theorem c1_throw {α : Type} (e : Gen.Fn.Err) : (throw e : Except Gen.Fn.Err α) = .error e := rfl

theorem c1_tmod_eq_zero_iff (y k : Int) : Int.tmod y k = 0 ↔ y % k = 0 := by
  exact ⟨fun h => Int.emod_eq_zero_of_dvd (Int.dvd_of_tmod_eq_zero h),
    fun h => Int.tmod_eq_zero_of_dvd (Int.dvd_of_emod_eq_zero h)⟩

theorem c1_beq (a b : Int) : (a == b) = decide (a = b) := by
  cases h : decide (a = b) <;> simp_all
theorem c1_bne (a b : Int) : (a != b) = !decide (a = b) := by
  simp [bne, c1_beq]

theorem isLeapYear_eq (y : Int) : Gen.Fn.SolarUtil_IsLeapYear y = .ok (Model.isLeapYear y) := by
  unfold Gen.Fn.SolarUtil_IsLeapYear Model.isLeapYear
  by_cases h : y < 1600 <;>
    simp [h, c1_tmod_eq_zero_iff, c1_beq, c1_bne, pure, Except.pure]

theorem c1_oct1582 (y m : Int) :
    (decide (1582 = y) && decide (10 = m)) = true ↔ y = 1582 ∧ m = 10 := by
  simp only [Bool.and_eq_true, decide_eq_true_eq]; omega

theorem getDaysOfYear_eq (y : Int) : Gen.Fn.SolarUtil_GetDaysOfYear y = .ok (Model.daysOfYear y) := by
  unfold Gen.Fn.SolarUtil_GetDaysOfYear Model.daysOfYear
  rw [isLeapYear_eq]
  by_cases h : y = 1582
  · subst h; simp [pure, Except.pure]
  · have h' : ¬ (1582 = y) := fun e => h e.symm
    cases hl : Model.isLeapYear y <;> simp [h, h', pure, Except.pure, bind, Except.bind]

theorem c1_idx_dom (m : Int) (h1 : 1 ≤ m) (h12 : m ≤ 12) :
    Gen.Fn.idx Gen.Tables.SolarUtil.«DAYS_OF_MONTH» (m - 1) = .ok (Model.baseDaysOfMonth m) := by
  have : m = 1 ∨ m = 2 ∨ m = 3 ∨ m = 4 ∨ m = 5 ∨ m = 6 ∨ m = 7 ∨ m = 8 ∨ m = 9 ∨ m = 10 ∨
      m = 11 ∨ m = 12 := by omega
  rcases this with h | h | h | h | h | h | h | h | h | h | h | h <;> subst h <;> rfl

theorem c1_idx_dom_panic (m : Int) (h : m < 1 ∨ 12 < m) :
    Gen.Fn.idx Gen.Tables.SolarUtil.«DAYS_OF_MONTH» (m - 1) = .error .panic := by
  unfold Gen.Fn.idx
  split
  · rfl
  · rw [List.getElem?_eq_none (by show 12 ≤ (m - 1).toNat; omega)]; rfl

theorem getDaysOfMonth_eq (y m : Int) (h1 : 1 ≤ m) (h12 : m ≤ 12) :
    Gen.Fn.SolarUtil_GetDaysOfMonth y m = .ok (Model.daysOfMonth y m) := by
  unfold Model.daysOfMonth
  simp only [Gen.Fn.SolarUtil_GetDaysOfMonth, c1_idx_dom m h1 h12, isLeapYear_eq, c1_oct1582]
  by_cases hy : y = 1582 ∧ m = 10
  · simp only [if_pos hy]; rfl
  · by_cases hm : m = 2
    · cases hl : Model.isLeapYear y <;> simp [hm]
    · simp [hy, hm]

/-- Outside `1 ≤ m ≤ 12` (and not the special-cased 1582-10) the Go code panics on the table
index, whereas `Model.daysOfMonth` is totalised (returns 0). -/
theorem getDaysOfMonth_panic (y m : Int) (h : m < 1 ∨ 12 < m) :
    Gen.Fn.SolarUtil_GetDaysOfMonth y m = .error .panic := by
  simp only [Gen.Fn.SolarUtil_GetDaysOfMonth, c1_idx_dom_panic m h]
  have hm : ¬ (10 = m) := by omega
  simp [hm, bind, Except.bind]

@[simp] theorem getYear_eq (s : Gen.Fn.Solar) : Gen.Fn.calendar_Solar_GetYear s = .ok s.year := rfl
@[simp] theorem getMonth_eq (s : Gen.Fn.Solar) : Gen.Fn.calendar_Solar_GetMonth s = .ok s.month := rfl
@[simp] theorem getDay_eq (s : Gen.Fn.Solar) : Gen.Fn.calendar_Solar_GetDay s = .ok s.day := rfl
@[simp] theorem getHour_eq (s : Gen.Fn.Solar) : Gen.Fn.calendar_Solar_GetHour s = .ok s.hour := rfl
@[simp] theorem getMinute_eq (s : Gen.Fn.Solar) : Gen.Fn.calendar_Solar_GetMinute s = .ok s.minute := rfl
@[simp] theorem getSecond_eq (s : Gen.Fn.Solar) : Gen.Fn.calendar_Solar_GetSecond s = .ok s.second := rfl

/-- The conjuncts are in the order in which `NewSolar` tests them. -/
theorem c1_valid_iff (y m d h mi s : Int) :
    (Model.validYmd y m d && Model.validHms h mi s) = true ↔
      (1 ≤ m ∧ m ≤ 12) ∧ (1 ≤ d ∧ d ≤ 31) ∧
      (if y = 1582 ∧ m = 10 then d ≤ 4 ∨ 15 ≤ d else d ≤ Model.daysOfMonth y m) ∧
      (0 ≤ h ∧ h ≤ 23) ∧ (0 ≤ mi ∧ mi ≤ 59) ∧ (0 ≤ s ∧ s ≤ 59) ∧ True := by
  simp only [Model.validYmd, Model.validHms, Bool.and_eq_true, decide_eq_true_eq, and_assoc,
    and_true]
  by_cases c : y = 1582 ∧ m = 10
  · simp only [if_pos c, Bool.not_eq_true', Bool.and_eq_false_iff, decide_eq_false_iff_not,
      Int.not_lt]
  · simp only [if_neg c, decide_eq_true_eq]

theorem c1_newSolar_none {y m d h mi s : Int}
    (hv : ¬ (Model.validYmd y m d && Model.validHms h mi s) = true) :
    Model.newSolar y m d h mi s = none := if_neg hv

/-- A guard `if g { panic }` (`g` = not `Q`) in front of `k` adds `Q` to `k`'s success condition. -/
theorem c1_guard {α : Type} {g : Bool} {Q P : Prop} [Decidable Q] [Decidable P] {r : α}
    {k : Except Gen.Fn.Err α} (hg : g = true ↔ ¬ Q)
    (hk : Q → k = if P then .ok r else .error .panic) :
    (if g = true then .error .panic else k) = if Q ∧ P then .ok r else .error .panic := by
  by_cases q : Q
  · rw [if_neg (fun h => hg.1 h q), hk q]; simp only [q, true_and]
  · rw [if_pos (hg.2 q), if_neg (fun c => q c.1)]

theorem c1_range (x lo hi : Int) :
    (decide (x < lo) || decide (x > hi)) = true ↔ ¬ (lo ≤ x ∧ x ≤ hi) := by
  simp only [Bool.or_eq_true, decide_eq_true_eq]; omega

/-- The day-of-month guard of `NewSolar`, in the shape of `c1_guard`. -/
theorem c1_dateGuard {α : Type} (y m d : Int) (h1 : 1 ≤ m) (h12 : m ≤ 12) {P : Prop}
    [Decidable P] {r : α} {k : Except Gen.Fn.Err α}
    (hk : k = if P then .ok r else .error .panic) :
    (if y = 1582 ∧ m = 10 then
        if (decide (d > 4) && decide (d < 15)) = true then .error .panic else k
      else Gen.Fn.SolarUtil_GetDaysOfMonth y m >>= fun t =>
        if decide (d > t) = true then .error .panic else k) =
      if (if y = 1582 ∧ m = 10 then d ≤ 4 ∨ 15 ≤ d else d ≤ Model.daysOfMonth y m) ∧ P
        then .ok r else .error .panic := by
  rw [getDaysOfMonth_eq y m h1 h12, c1_ok_bind]
  by_cases c : y = 1582 ∧ m = 10
  · simp only [if_pos c]
    exact c1_guard (by simp only [Bool.and_eq_true, decide_eq_true_eq]; omega) fun _ => hk
  · simp only [if_neg c]
    exact c1_guard (by simp only [decide_eq_true_eq]; omega) fun _ => hk

/-- `NewSolar` is five range guards and the day-of-month guard, in the order of `c1_valid_iff`. -/
theorem newSolar_eq_ite (y m d h mi s : Int) :
    Gen.Fn.calendar_NewSolar y m d h mi s =
      if (Model.validYmd y m d && Model.validHms h mi s) = true then .ok ⟨y, m, d, h, mi, s⟩
        else .error .panic := by
  simp only [c1_valid_iff, Gen.Fn.calendar_NewSolar, c1_throw_bind, c1_oct1582]
  refine c1_guard (c1_range ..) fun ⟨h1, h12⟩ => ?_
  refine c1_guard (c1_range ..) fun _ => ?_
  refine c1_dateGuard _ _ _ h1 h12 ?_
  exact c1_guard (c1_range ..) fun _ => c1_guard (c1_range ..) fun _ =>
    c1_guard (c1_range ..) fun _ => rfl

theorem newSolar_eq (y m d h mi s : Int) :
    Gen.Fn.calendar_NewSolar y m d h mi s = (match Model.newSolar y m d h mi s with
      | some r => .ok (ofM r) | none => .error .panic) := by
  rw [newSolar_eq_ite, Model.newSolar]
  split <;> rfl

theorem newSolarFromYmd_eq (y m d : Int) :
    Gen.Fn.calendar_NewSolarFromYmd y m d = (match Model.newSolarYmd y m d with
      | some r => .ok (ofM r) | none => .error .panic) := by
  unfold Gen.Fn.calendar_NewSolarFromYmd Model.newSolarYmd
  rw [newSolar_eq]

/-- A successful `NewSolar` returns exactly the six arguments, and they are valid. -/
theorem newSolar_ok_iff (y m d h mi s : Int) (r : Gen.Fn.Solar) :
    Gen.Fn.calendar_NewSolar y m d h mi s = .ok r ↔
      (r = ⟨y, m, d, h, mi, s⟩ ∧ (toM r).valid = true) := by
  rw [newSolar_eq_ite]
  by_cases hv : (Model.validYmd y m d && Model.validHms h mi s) = true
  · rw [if_pos hv]
    constructor
    · intro e; cases e; exact ⟨rfl, hv⟩
    · rintro ⟨rfl, _⟩; rfl
  · rw [if_neg hv]
    constructor
    · intro e; cases e
    · rintro ⟨rfl, h⟩; exact absurd h hv

/-- The shape of every translated `for i := lo; i < hi; i++ { acc += f(i) }` loop. -/
def c1_sumLoop (f : Int → Except Gen.Fn.Err Int) : Nat → Int → Int → Except Gen.Fn.Err Int
  | 0, _, acc => .ok acc
  | n + 1, lo, acc => f lo >>= fun t => c1_sumLoop f n (lo + 1) (acc + t)

/-- Pure counterpart: `g lo + g (lo+1) + … ` (`n` terms). -/
def c1_sum (g : Int → Int) : Nat → Int → Int
  | 0, _ => 0
  | n + 1, lo => g lo + c1_sum g n (lo + 1)

theorem c1_forIn_range {β : Type} (n : Nat) (init : β)
    (f : Nat → β → Except Gen.Fn.Err (ForInStep β)) :
    forIn [:n] init f = forIn (List.range' 0 n 1) init f := by
  rw [Std.Legacy.Range.forIn_eq_forIn_range']
  simp [Std.Legacy.Range.size]

theorem c1_forIn_range' (f : Int → Except Gen.Fn.Err Int) (lo : Int) (n s : Nat) (acc : Int) :
    forIn (List.range' s n 1) acc (fun (k : Nat) r => do
        let t ← f (lo + 1 * (k : Int))
        pure (ForInStep.yield (r + t))) = c1_sumLoop f n (lo + s) acc := by
  induction n generalizing s acc with
  | zero => rfl
  | succ n ih =>
    rw [List.range'_succ, List.forIn_cons]
    simp only [c1_sumLoop, Int.one_mul, c1_pure] at ih ⊢
    cases hf : f (lo + (s : Int)) with
    | error e => rfl
    | ok t =>
      simp only [c1_ok_bind]
      rw [ih]
      congr 1
      omega

theorem c1_forIn_sum (f : Int → Except Gen.Fn.Err Int) (lo : Int) (n : Nat) (acc : Int) :
    forIn [:n] acc (fun (k : Nat) r => do
        let t ← f (lo + 1 * (k : Int))
        pure (ForInStep.yield (r + t))) = c1_sumLoop f n lo acc := by
  rw [c1_forIn_range]
  simpa using c1_forIn_range' f lo n 0 acc

theorem c1_sumLoop_ok (f : Int → Except Gen.Fn.Err Int) (g : Int → Int) (n : Nat) (lo acc : Int)
    (h : ∀ i, lo ≤ i → i < lo + n → f i = .ok (g i)) :
    c1_sumLoop f n lo acc = .ok (acc + c1_sum g n lo) := by
  induction n generalizing lo acc with
  | zero => simp [c1_sumLoop, c1_sum]
  | succ n ih =>
    simp only [c1_sumLoop, c1_sum]
    rw [h lo (by omega) (by omega), c1_ok_bind, ih]
    · congr 1; omega
    · intro i h1 h2; exact h i (by omega) (by omega)

theorem c1_sumLoop_error (f : Int → Except Gen.Fn.Err Int) (e : Gen.Fn.Err) (n : Nat) (lo acc j : Int)
    (hok : ∀ i, lo ≤ i → i < j → ∃ v, f i = .ok v) (hj : f j = .error e)
    (h1 : lo ≤ j) (h2 : j < lo + n) :
    c1_sumLoop f n lo acc = .error e := by
  induction n generalizing lo acc with
  | zero => omega
  | succ n ih =>
    simp only [c1_sumLoop]
    by_cases hlo : lo = j
    · subst hlo; rw [hj]; rfl
    · obtain ⟨v, hv⟩ := hok lo (by omega) (by omega)
      rw [hv, c1_ok_bind]
      exact ih (lo + 1) (acc + v) (fun i a b => hok i (by omega) b) (by omega) (by omega)

theorem c1_daysInYearLoop (y : Int) (k : Nat) (i : Int) :
    Model.daysInYearLoop k y i = c1_sum (Model.daysOfMonth y) k i := by
  induction k generalizing i with
  | zero => rfl
  | succ k ih => simp [Model.daysInYearLoop, c1_sum, ih]

theorem c1_yearsLoop (k : Nat) (a : Int) :
    Model.yearsLoop k a = c1_sum Model.daysOfYear k a := by
  induction k generalizing a with
  | zero => rfl
  | succ k ih => simp [Model.yearsLoop, c1_sum, ih]

theorem getDaysInYear_eq (y m d : Int) (hm : m ≤ 13) :
    Gen.Fn.SolarUtil_GetDaysInYear y m d = (match Model.daysInYear y m d with
      | some r => .ok r | none => .error .panic) := by
  have hl := c1_sumLoop_ok (Gen.Fn.SolarUtil_GetDaysOfMonth y) (Model.daysOfMonth y)
    (m - 1).toNat 1 0 fun i h1 h2 => getDaysOfMonth_eq y i h1 (by omega)
  simp only [Gen.Fn.SolarUtil_GetDaysInYear, c1_forIn_sum (Gen.Fn.SolarUtil_GetDaysOfMonth y),
    Int.add_zero, Int.ediv_one, hl, Model.daysInYear, c1_daysInYearLoop, Int.zero_add,
    c1_ok_bind, c1_oct1582, decide_eq_true_eq]
  by_cases c : y = 1582 ∧ m = 10
  · simp only [if_pos c]
    by_cases c1 : d ≥ 15
    · simp only [if_pos c1]; exact congrArg Except.ok (Int.add_sub_assoc ..).symm
    · simp only [if_neg c1]; split <;> rfl
  · simp only [if_neg c]; rfl

/-- For `m ≥ 14` the Go loop reaches `GetDaysOfMonth(year, 13)` and panics on the table index
(`Model.daysInYear` is totalised there; every caller passes a month of a valid date). -/
theorem getDaysInYear_panic (y m d : Int) (hm : 13 < m) :
    Gen.Fn.SolarUtil_GetDaysInYear y m d = .error .panic := by
  simp only [Gen.Fn.SolarUtil_GetDaysInYear, c1_forIn_sum (Gen.Fn.SolarUtil_GetDaysOfMonth y)]
  rw [c1_sumLoop_error _ .panic _ _ _ 13]
  · rfl
  · intro i h1 h2; exact ⟨_, getDaysOfMonth_eq y i h1 (by omega)⟩
  · exact getDaysOfMonth_panic y 13 (by omega)
  · omega
  · simp only [Int.add_zero, Int.ediv_one]; omega

/-- `GetDaysInYear` for all inputs at once. -/
theorem getDaysInYear_eq' (y m d : Int) :
    Gen.Fn.SolarUtil_GetDaysInYear y m d =
      (if 13 < m then .error .panic else match Model.daysInYear y m d with
        | some r => .ok r | none => .error .panic) := by
  by_cases hm : 13 < m
  · rw [if_pos hm, getDaysInYear_panic y m d hm]
  · rw [if_neg hm, getDaysInYear_eq y m d (by omega)]

/-- Strict lexicographic order on 6-tuples, written out. -/
def c1_lex6 (a1 a2 a3 a4 a5 a6 b1 b2 b3 b4 b5 b6 : Int) : Prop :=
  a1 < b1 ∨ (a1 = b1 ∧ (a2 < b2 ∨ (a2 = b2 ∧ (a3 < b3 ∨ (a3 = b3 ∧ (a4 < b4 ∨ (a4 = b4 ∧
    (a5 < b5 ∨ (a5 = b5 ∧ a6 < b6)))))))))

instance (a1 a2 a3 a4 a5 a6 b1 b2 b3 b4 b5 b6 : Int) :
    Decidable (c1_lex6 a1 a2 a3 a4 a5 a6 b1 b2 b3 b4 b5 b6) := by
  unfold c1_lex6; infer_instance

theorem c1_lexLt_cons (a b : Int) (r : List (Int × Int)) :
    Model.lexLt ((a, b) :: r) = true ↔ (a < b ∨ (a = b ∧ Model.lexLt r = true)) := by
  simp only [Model.lexLt]
  by_cases h1 : a > b
  · simp [h1]; omega
  · by_cases h2 : a < b
    · simp [h1, h2]
    · have : a = b := by omega
      simp [this]

theorem c1_lexLt6 (a1 a2 a3 a4 a5 a6 b1 b2 b3 b4 b5 b6 : Int) :
    Model.lexLt [(a1, b1), (a2, b2), (a3, b3), (a4, b4), (a5, b5), (a6, b6)] = true ↔
      c1_lex6 a1 a2 a3 a4 a5 a6 b1 b2 b3 b4 b5 b6 := by
  simp only [c1_lexLt_cons, c1_lex6]
  simp [Model.lexLt]

theorem c1_lexLt_single (a b : Int) : Model.lexLt [(a, b)] = decide (a < b) := by
  simp only [Model.lexLt]
  by_cases h : a < b
  · rw [if_neg (Int.lt_asymm h), if_pos h, decide_eq_true h]
  · rw [if_neg h, ite_self, decide_eq_false h]

/-- One level of the `IsBefore` cascade is one unfolding of `Model.lexLt`. -/
theorem c1_lexStep (a b : Int) (r : List (Int × Int)) (k : Except Gen.Fn.Err Bool)
    (hk : k = .ok (Model.lexLt r)) :
    (if decide (a > b) = true then pure false else if decide (a < b) = true then pure true else k) =
      .ok (Model.lexLt ((a, b) :: r)) := by
  subst hk
  simp only [Model.lexLt, decide_eq_true_eq]
  split
  · rfl
  · split <;> rfl

/-- `Solar.IsAfter` tests `b > a` before `b < a`; the tests exclude each other, so the order is
immaterial. -/
theorem c1_lexStep_swap (a b : Int) (r : List (Int × Int)) (k : Except Gen.Fn.Err Bool)
    (hk : k = .ok (Model.lexLt r)) :
    (if decide (b > a) = true then pure true else if decide (b < a) = true then pure false else k) =
      .ok (Model.lexLt ((a, b) :: r)) := by
  subst hk
  simp only [Model.lexLt, decide_eq_true_eq]
  by_cases h : a < b
  · rw [if_pos h, if_neg (Int.lt_asymm h), if_pos h]; rfl
  · rw [if_neg h, if_neg h]
    split <;> rfl

theorem isBefore_eq_lexLt (ay am ad ah ai as_ by_ bm bd bh bi bs : Int) :
    Gen.Fn.SolarUtil_IsBefore ay am ad ah ai as_ by_ bm bd bh bi bs =
      .ok (Model.lexLt [(ay, by_), (am, bm), (ad, bd), (ah, bh), (ai, bi), (as_, bs)]) :=
  c1_lexStep _ _ _ _ <| c1_lexStep _ _ _ _ <| c1_lexStep _ _ _ _ <| c1_lexStep _ _ _ _ <|
    c1_lexStep _ _ _ _ <| congrArg Except.ok (c1_lexLt_single _ _).symm

/-- `SolarUtil.IsBefore` decides the strict lexicographic order on the 6-tuples. -/
theorem isBefore_eq (ay am ad ah ai as_ by_ bm bd bh bi bs : Int) :
    Gen.Fn.SolarUtil_IsBefore ay am ad ah ai as_ by_ bm bd bh bi bs =
      .ok (decide (c1_lex6 ay am ad ah ai as_ by_ bm bd bh bi bs)) := by
  rw [isBefore_eq_lexLt]
  congr 1
  rw [Bool.eq_iff_iff, c1_lexLt6]
  simp

/-- … which is `Model.Solar.isBefore` on the packed structures. -/
theorem isBefore_eq_model (a b : Model.Solar) :
    Gen.Fn.SolarUtil_IsBefore a.year a.month a.day a.hour a.minute a.second
      b.year b.month b.day b.hour b.minute b.second = .ok (a.isBefore b) :=
  isBefore_eq_lexLt ..

theorem c1_isBefore_iff (a b : Model.Solar) :
    a.isBefore b = true ↔ c1_lex6 a.year a.month a.day a.hour a.minute a.second
      b.year b.month b.day b.hour b.minute b.second := c1_lexLt6 ..

theorem c1_isAfter_iff (a b : Model.Solar) :
    a.isAfter b = true ↔ c1_lex6 b.year b.month b.day b.hour b.minute b.second
      a.year a.month a.day a.hour a.minute a.second := c1_lexLt6 ..

theorem solarIsBefore_eq (s o : Gen.Fn.Solar) :
    Gen.Fn.calendar_Solar_IsBefore s o = .ok ((toM s).isBefore (toM o)) := by
  simp only [Gen.Fn.calendar_Solar_IsBefore, getYear_eq, getMonth_eq, getDay_eq, getHour_eq,
    getMinute_eq, getSecond_eq, c1_ok_bind, isBefore_eq_lexLt]
  rfl

theorem solarIsAfter_eq (s o : Gen.Fn.Solar) :
    Gen.Fn.calendar_Solar_IsAfter s o = .ok ((toM s).isAfter (toM o)) :=
  c1_lexStep_swap _ _ _ _ <| c1_lexStep_swap _ _ _ _ <| c1_lexStep_swap _ _ _ _ <|
    c1_lexStep_swap _ _ _ _ <| c1_lexStep_swap _ _ _ _ <|
    congrArg Except.ok (c1_lexLt_single _ _).symm

theorem solarIsAfter_swap (s o : Gen.Fn.Solar) :
    Gen.Fn.calendar_Solar_IsAfter s o = Gen.Fn.calendar_Solar_IsBefore o s := by
  rw [solarIsAfter_eq, solarIsBefore_eq]; rfl

theorem c1_sumLoop_daysOfYear (n : Nat) (lo acc : Int) :
    c1_sumLoop Gen.Fn.SolarUtil_GetDaysOfYear n lo acc = .ok (acc + Model.yearsLoop n lo) := by
  rw [c1_yearsLoop]
  exact c1_sumLoop_ok _ _ n lo acc (fun i _ _ => getDaysOfYear_eq i)

theorem c1_getDaysInYear_opt (y m d : Int) : ∃ o : Option Int,
    Gen.Fn.SolarUtil_GetDaysInYear y m d =
      match o with | some r => .ok r | none => .error .panic := by
  rw [getDaysInYear_eq']
  split
  · exact ⟨none, rfl⟩
  · exact ⟨_, rfl⟩

/-- Each of the three branches makes both `GetDaysInYear` calls (outcomes `oa`, `ob`), in its own order. -/
theorem c1_getDaysBetween (ay am ad by_ bm bd : Int) (oa ob : Option Int)
    (ha : Gen.Fn.SolarUtil_GetDaysInYear ay am ad =
      match oa with | some r => .ok r | none => .error .panic)
    (hb : Gen.Fn.SolarUtil_GetDaysInYear by_ bm bd =
      match ob with | some r => .ok r | none => .error .panic) :
    Gen.Fn.SolarUtil_GetDaysBetween ay am ad by_ bm bd =
      match (match oa, ob with
        | some da, some db =>
          if ay = by_ then some (db - da)
          else if ay > by_ then
            some (-((Model.daysOfYear by_ - db) + Model.yearsLoop (ay - by_ - 1).toNat (by_ + 1) + da))
          else
            some ((Model.daysOfYear ay - da) + Model.yearsLoop (by_ - ay - 1).toNat (ay + 1) + db)
        | _, _ => none) with
      | some r => .ok r | none => .error .panic := by
  simp only [Gen.Fn.SolarUtil_GetDaysBetween, c1_forIn_sum Gen.Fn.SolarUtil_GetDaysOfYear]
  simp only [getDaysOfYear_eq, c1_sumLoop_daysOfYear, ha, hb, c1_ok_bind, Int.add_zero,
    Int.ediv_one, Int.sub_sub, decide_eq_true_eq]
  cases oa <;> cases ob <;> simp only [c1_ok_bind, c1_error_bind, ite_self, c1_pure]
  by_cases h1 : ay = by_
  · simp only [if_pos h1]
  · by_cases h2 : ay > by_
    · simp only [if_neg h1, if_pos h2]
    · simp only [if_neg h1, if_neg h2]

theorem getDaysBetween_eq (ay am ad by_ bm bd : Int) (ha : am ≤ 13) (hb : bm ≤ 13) :
    Gen.Fn.SolarUtil_GetDaysBetween ay am ad by_ bm bd =
      (match Model.daysBetween ay am ad by_ bm bd with
        | some r => .ok r | none => .error .panic) :=
  c1_getDaysBetween _ _ _ _ _ _ _ _ (getDaysInYear_eq _ _ _ ha) (getDaysInYear_eq _ _ _ hb)

/-- With a month argument `≥ 14` on either side the Go code panics (inside `GetDaysInYear`),
whereas `Model.daysBetween` is totalised. -/
theorem getDaysBetween_panic (ay am ad by_ bm bd : Int) (h : 13 < am ∨ 13 < bm) :
    Gen.Fn.SolarUtil_GetDaysBetween ay am ad by_ bm bd = .error .panic := by
  obtain ⟨oa, ha⟩ := c1_getDaysInYear_opt ay am ad
  obtain ⟨ob, hb⟩ := c1_getDaysInYear_opt by_ bm bd
  rcases h with h | h
  · rw [c1_getDaysBetween _ _ _ _ _ _ none ob (getDaysInYear_panic _ _ _ h) hb]
  · rw [c1_getDaysBetween _ _ _ _ _ _ oa none ha (getDaysInYear_panic _ _ _ h)]
    cases oa <;> rfl

theorem solarSubtract_eq (s o : Gen.Fn.Solar) (hs : s.month ≤ 13) (ho : o.month ≤ 13) :
    Gen.Fn.calendar_Solar_Subtract s o = (match (toM s).subtract (toM o) with
      | some r => .ok r | none => .error .panic) := by
  simp only [Gen.Fn.calendar_Solar_Subtract, getYear_eq, getMonth_eq, getDay_eq, c1_ok_bind,
    getDaysBetween_eq _ _ _ _ _ _ ho hs, Model.Solar.subtract, toM_year, toM_month, toM_day]

theorem solarSubtractMinute_eq (s o : Gen.Fn.Solar) (hs : s.month ≤ 13) (ho : o.month ≤ 13) :
    Gen.Fn.calendar_Solar_SubtractMinute s o = (match (toM s).subtractMinute (toM o) with
      | some r => .ok r | none => .error .panic) := by
  simp only [Gen.Fn.calendar_Solar_SubtractMinute, solarSubtract_eq s o hs ho, getHour_eq,
    getMinute_eq, Model.Solar.subtractMinute]
  cases (toM s).subtract (toM o) with
  | none => rfl
  | some days =>
    simp only [c1_ok_bind, toM_hour, toM_minute]
    by_cases h : s.hour * 60 + s.minute - (o.hour * 60 + o.minute) < 0 <;> simp [h]

theorem solarSubtract_panic (s o : Gen.Fn.Solar) (h : 13 < s.month ∨ 13 < o.month) :
    Gen.Fn.calendar_Solar_Subtract s o = .error .panic := by
  simp only [Gen.Fn.calendar_Solar_Subtract, getYear_eq, getMonth_eq, getDay_eq, c1_ok_bind,
    getDaysBetween_panic _ _ _ _ _ _ (Or.symm h)]

theorem solarSubtractMinute_panic (s o : Gen.Fn.Solar) (h : 13 < s.month ∨ 13 < o.month) :
    Gen.Fn.calendar_Solar_SubtractMinute s o = .error .panic := by
  simp only [Gen.Fn.calendar_Solar_SubtractMinute, solarSubtract_panic s o h]
  rfl

theorem c1_valid_month (s : Gen.Fn.Solar) (h : (toM s).valid = true) :
    1 ≤ s.month ∧ s.month ≤ 12 :=
  ((c1_valid_iff s.year s.month s.day s.hour s.minute s.second).1 h).1

theorem solarSubtract_eq_of_valid (s o : Gen.Fn.Solar) (hs : (toM s).valid = true)
    (ho : (toM o).valid = true) :
    Gen.Fn.calendar_Solar_Subtract s o = (match (toM s).subtract (toM o) with
      | some r => .ok r | none => .error .panic) :=
  solarSubtract_eq s o (by have := c1_valid_month s hs; omega)
    (by have := c1_valid_month o ho; omega)

theorem solarSubtractMinute_eq_of_valid (s o : Gen.Fn.Solar) (hs : (toM s).valid = true)
    (ho : (toM o).valid = true) :
    Gen.Fn.calendar_Solar_SubtractMinute s o = (match (toM s).subtractMinute (toM o) with
      | some r => .ok r | none => .error .panic) :=
  solarSubtractMinute_eq s o (by have := c1_valid_month s hs; omega)
    (by have := c1_valid_month o ho; omega)

section Axioms
#print axioms isLeapYear_eq
#print axioms getDaysOfYear_eq
#print axioms getDaysOfMonth_eq
#print axioms getDaysOfMonth_panic
#print axioms getDaysInYear_eq
#print axioms getDaysInYear_panic
#print axioms getDaysInYear_eq'
#print axioms isBefore_eq_lexLt
#print axioms isBefore_eq
#print axioms isBefore_eq_model
#print axioms getDaysBetween_eq
#print axioms getDaysBetween_panic
#print axioms newSolar_eq
#print axioms newSolarFromYmd_eq
#print axioms newSolar_ok_iff
#print axioms getYear_eq
#print axioms getMonth_eq
#print axioms getDay_eq
#print axioms getHour_eq
#print axioms getMinute_eq
#print axioms getSecond_eq
#print axioms solarSubtract_eq
#print axioms solarSubtract_panic
#print axioms solarSubtract_eq_of_valid
#print axioms solarSubtractMinute_eq
#print axioms solarSubtractMinute_panic
#print axioms solarSubtractMinute_eq_of_valid
#print axioms solarIsBefore_eq
#print axioms solarIsAfter_eq
end Axioms

end FnEq
