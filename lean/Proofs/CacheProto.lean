/-
Proofs.CacheProto — safety and progress of the mutex-protected single-slot cache protocol
(`Model.Cache`, the abstract model of `calendar.NewLunarYear`).
-/
import Model.Cache
namespace Model.Cache

/-- the invariant: stored, held and returned values are `compute` of their argument; the lock names the thread inside -/
def Inv {T : Type} (compute : Int → T) (s : State T) : Prop :=
  (∀ y v, s.cache = some (y, v) → v = compute y) ∧
  (∀ t, s.lock = some t ↔ holdsLock (s.pc t) = true) ∧
  (∀ t u, holdsLock (s.pc t) = true → holdsLock (s.pc u) = true → t = u) ∧
  (∀ t y v, s.pc t = .holding y v → v = compute y) ∧ (∀ t y v, s.pc t = .done y v → v = compute y) ∧
  (∀ p ∈ s.returned, p.2 = compute p.1)

theorem setPc_same {T : Type} (s : State T) (t : Nat) (p : PC T) : setPc s t p t = p := by
  simp [setPc]

theorem setPc_other {T : Type} (s : State T) (t u : Nat) (p : PC T) (h : u ≠ t) : setPc s t p u = s.pc u := by
  simp [setPc, h]

theorem forall_setPc {T : Type} {P : Nat → PC T → Prop} {s : State T} {t : Nat} {p : PC T}
    (hp : P t p) (h : ∀ u, u ≠ t → P u (s.pc u)) (u : Nat) : P u (setPc s t p u) := by
  by_cases hu : u = t
  · rw [hu, setPc_same]; exact hp
  · rw [setPc_other s t u p hu]; exact h u hu

theorem mutex_of_lock {T : Type} {lock : Option Nat} {pc : Nat → PC T}
    (hl : ∀ t, lock = some t ↔ holdsLock (pc t) = true) (t u : Nat)
    (ht : holdsLock (pc t) = true) (hu : holdsLock (pc u) = true) : t = u :=
  Option.some.inj (((hl t).2 ht).symm.trans ((hl u).2 hu))

/-- the shape of every step: thread `t` moves to `p`; cache, lock and history become `c`, `l`, `r` -/
theorem Inv.update {T : Type} {compute : Int → T} {s : State T} (h : Inv compute s) {t : Nat} {p : PC T}
    {c : Option (Int × T)} {l : Option Nat} {r : List (Int × T)}
    (hc : ∀ y v, c = some (y, v) → v = compute y)
    (hlt : l = some t ↔ holdsLock p = true)
    (hlo : ∀ u, u ≠ t → (l = some u ↔ s.lock = some u))
    (hh : ∀ y v, p = .holding y v → v = compute y)
    (hd : ∀ y v, p = .done y v → v = compute y)
    (hr : ∀ q ∈ r, q.2 = compute q.1) :
    Inv compute ⟨c, l, setPc s t p, r⟩ :=
  have hl : ∀ u, l = some u ↔ holdsLock (setPc s t p u) = true :=
    forall_setPc (P := fun u q => l = some u ↔ holdsLock q = true) hlt
      fun u hu => (hlo u hu).trans (h.2.1 u)
  ⟨hc, hl, mutex_of_lock hl,
    forall_setPc (P := fun _ q => ∀ y v, q = .holding y v → v = compute y) hh fun u _ => h.2.2.2.1 u,
    forall_setPc (P := fun _ q => ∀ y v, q = .done y v → v = compute y) hd fun u _ => h.2.2.2.2.1 u, hr⟩

theorem inv_init {T : Type} (compute : Int → T) : Inv compute (init T) := by
  refine ⟨?_, ?_, ?_, ?_, ?_, ?_⟩ <;> simp [init, holdsLock]

theorem inv_step {T : Type} (compute : Int → T) (s s' : State T) (h : Inv compute s) (st : Step compute s s') : Inv compute s' := by
  have ⟨hc, hl, _, hh, hd, hr⟩ := h
  cases st with
  | call t y hpc =>
    exact h.update hc (by rw [hl, hpc]; exact .rfl) (fun _ _ => .rfl) nofun nofun hr
  | acquire t y hpc hfree =>
    exact h.update hc (by simp [holdsLock]) (fun u hu => by simp [hfree, hu.symm]) nofun nofun hr
  | hit t y v hpc hcache =>
    exact h.update hc (by rw [hl, hpc]; exact .rfl) (fun _ _ => .rfl) (fun | _, _, rfl => hc y v hcache) nofun hr
  | miss t y hpc _ =>
    exact h.update (fun | _, _, rfl => rfl) (by rw [hl, hpc]; exact .rfl) (fun _ _ => .rfl)
      (fun | _, _, rfl => rfl) nofun hr
  | crash t y hpc =>
    have hlock : s.lock = some t := (hl t).2 (by rw [hpc]; rfl)
    exact h.update hc (by simp [holdsLock]) (fun u hu => by simp [hlock, hu.symm]) nofun nofun hr
  | release t y v hpc =>
    have hlock : s.lock = some t := (hl t).2 (by rw [hpc]; rfl)
    exact h.update hc (by simp [holdsLock]) (fun u hu => by simp [hlock, hu.symm]) nofun
      (fun | _, _, rfl => hh t y v hpc) hr
  | ret t y v hpc =>
    exact h.update hc (by rw [hl, hpc]; exact .rfl) (fun _ _ => .rfl) nofun nofun
      (List.forall_mem_cons.2 ⟨hd t y v hpc, hr⟩)

theorem inv_reachable {T : Type} (compute : Int → T) (s : State T) (h : Reachable compute s) : Inv compute s := by
  induction h with
  | init => exact inv_init compute
  | step s s' _ st ih => exact inv_step compute s s' ih st

/-- results do not depend on call history or schedule: every completed call returned the pure
function of its argument -/
theorem results_pure {T : Type} (compute : Int → T) (s : State T) (h : Reachable compute s) :
    ∀ p ∈ s.returned, p.2 = compute p.1 :=
  (inv_reachable compute s h).2.2.2.2.2

/-- the library is never left blocked: whenever no thread is inside, the lock is free -/
theorem lock_free_when_idle {T : Type} (compute : Int → T) (s : State T) (h : Reachable compute s)
    (hn : ∀ t, holdsLock (s.pc t) = false) : s.lock = none := by
  cases hx : s.lock with
  | none => rfl
  | some t => have := ((inv_reachable compute s h).2.1 t).1 hx; simp [hn t] at this

/-- a thread inside can always take its next step -/
theorem holder_can_progress {T : Type} (compute : Int → T) (s : State T) (h : Reachable compute s) (t : Nat) (ht : s.lock = some t) :
    ∃ s', Step compute s s' := by
  have hx := ((inv_reachable compute s h).2.1 t).1 ht
  cases hpc : s.pc t with
  | holding y v => exact ⟨_, .release s t y v hpc⟩
  | inside y =>
    by_cases hcache : ∃ v, s.cache = some (y, v)
    · obtain ⟨v, hv⟩ := hcache
      exact ⟨_, .hit s t y v hpc hv⟩
    · exact ⟨_, .miss s t y hpc fun v hv => hcache ⟨v, hv⟩⟩
  | _ => simp [hpc, holdsLock] at hx

/-- a waiting thread is blocked only while some other thread holds the lock (which can progress):
no deadlock -/
theorem no_deadlock {T : Type} (compute : Int → T) (s : State T) (h : Reachable compute s) (t : Nat) (y : Int) (hw : s.pc t = .waiting y) :
    ∃ s', Step compute s s' := by
  cases hx : s.lock with
  | none => exact ⟨_, .acquire s t y hw hx⟩
  | some u => exact holder_can_progress compute s h u hx

/-- sharper form of `no_deadlock`: either the waiting thread itself can acquire, or the lock is held
by a different thread, which is inside (and can step, by `holder_can_progress`) -/
theorem waiting_blocked_only_by_holder {T : Type} (compute : Int → T) (s : State T) (h : Reachable compute s) (t : Nat) (y : Int)
    (hw : s.pc t = .waiting y) :
    s.lock = none ∨ ∃ u, u ≠ t ∧ s.lock = some u ∧ holdsLock (s.pc u) = true := by
  cases hx : s.lock with
  | none => exact .inl rfl
  | some u =>
    have hu := ((inv_reachable compute s h).2.1 u).1 hx
    exact .inr ⟨u, fun hut => by simp [hut, hw, holdsLock] at hu, rfl, hu⟩

/-- non-vacuity: a two-thread history in which thread 1's miss for year 2024 is followed by
thread 2's miss for 2025 and a hit for 2025 -/
example : ∃ s, Reachable (fun y => y * 2) s ∧ s.returned.length = 3 := by
  let f : Int → Int := fun y => y * 2
  have r0 : Reachable f (init Int) := Reachable.init
  -- both threads call; thread 2 waits while thread 1 is inside
  have r1 := Reachable.step _ _ r0 (Step.call _ 1 2024 rfl)
  have r2 := Reachable.step _ _ r1 (Step.call _ 2 2025 rfl)
  have r3 := Reachable.step _ _ r2 (Step.acquire _ 1 2024 rfl rfl)
  have r4 := Reachable.step _ _ r3 (Step.miss _ 1 2024 rfl (by intro v hv; simp [init] at hv))
  have r5 := Reachable.step _ _ r4 (Step.release _ 1 2024 (f 2024) rfl)
  -- thread 2 acquires before thread 1 has returned; miss (cache holds 2024)
  have r6 := Reachable.step _ _ r5 (Step.acquire _ 2 2025 rfl rfl)
  have r7 := Reachable.step _ _ r6 (Step.ret _ 1 2024 (f 2024) rfl)
  have r8 := Reachable.step _ _ r7 (Step.miss _ 2 2025 rfl (by intro v hv; simp at hv))
  -- thread 1 calls again (2025) and waits while thread 2 still holds the lock
  have r9 := Reachable.step _ _ r8 (Step.call _ 1 2025 rfl)
  have r10 := Reachable.step _ _ r9 (Step.release _ 2 2025 (f 2025) rfl)
  have r11 := Reachable.step _ _ r10 (Step.acquire _ 1 2025 rfl rfl)
  have r12 := Reachable.step _ _ r11 (Step.ret _ 2 2025 (f 2025) rfl)
  -- thread 1: hit
  have r13 := Reachable.step _ _ r12 (Step.hit _ 1 2025 (f 2025) rfl rfl)
  have r14 := Reachable.step _ _ r13 (Step.release _ 1 2025 (f 2025) rfl)
  have r15 := Reachable.step _ _ r14 (Step.ret _ 1 2025 (f 2025) rfl)
  exact ⟨_, r15, rfl⟩

end Model.Cache

#print axioms Model.Cache.inv_init
#print axioms Model.Cache.inv_step
#print axioms Model.Cache.inv_reachable
#print axioms Model.Cache.results_pure
#print axioms Model.Cache.lock_free_when_idle
#print axioms Model.Cache.holder_can_progress
#print axioms Model.Cache.no_deadlock
#print axioms Model.Cache.waiting_blocked_only_by_holder
