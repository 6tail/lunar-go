/-
FnSBase — what every string-mode proof (`Proofs/FnS*.lean`, namespace `FnSEq`) starts from: the Go-library semantics of
`Gen.FnS`, the structure conversions, the shapes the translation of Go control flow takes (binds, an `if` that adjusts a
variable, `switch` chains, search loops), and the stem / branch / pillar getters of `Lunar`.  The other accessors are divided by
what they read: FnS1 one stem or one branch, FnS2 a pillar pair, the month / day branches, the weekday or the lunar month / day,
FnS3 the objects `EightChar` and `LunarTime`.  The bind lemmas keep the prefix `sb_`; the rest is unprefixed.
-/
import Gen.FnS
import Model.Almanac
namespace FnSEq
open Gen.Fn (Err)

theorem sidx_eq_getD (T : List String) (i : Int) (h0 : 0 ≤ i) (h1 : i < T.length) :
    Gen.FnS.sidx T i = .ok (T.getD i.toNat "") := by
  have h : i.toNat < T.length := by omega
  simp [Gen.FnS.sidx, Int.not_lt.mpr h0, List.getD, List.getElem?_eq_getElem h, pure, Except.pure]

theorem sidx_eq_strGetD (T : List String) (i : Int) (h0 : 0 ≤ i) (h1 : i < T.length) :
    Gen.FnS.sidx T i = .ok (Model.strGetD T i) := by
  rw [sidx_eq_getD T i h0 h1, Model.strGetD, if_neg (Int.not_lt.mpr h0)]

theorem sidx_eq_strGetD' (T : List String) (i : Int) (h0 : 0 ≤ i) (h1 : i < T.length) :
    Gen.FnS.sidx T i = .ok (Model.ganStr.strGetD' T i) := sidx_eq_strGetD T i h0 h1

theorem sidx_panic (T : List String) (i : Int) (h : i < 0 ∨ (T.length : Int) ≤ i) :
    Gen.FnS.sidx T i = .error .panic := by
  unfold Gen.FnS.sidx
  split
  · rfl
  · rw [List.getElem?_eq_none (by omega)]; rfl

/-- the model's two totalised readers are the same function -/
theorem sb_strGetD'_eq (T : List String) (i : Int) : Model.ganStr.strGetD' T i = Model.strGetD T i := rfl

/-- outside the table the model's reader yields "" -/
theorem strGetD_out (T : List String) (i : Int) (h : i < 0 ∨ (T.length : Int) ≤ i) :
    Model.strGetD T i = "" := by
  unfold Model.strGetD
  by_cases hi : i < 0
  · simp [hi]
  · have h2 : T.length ≤ i.toNat := by omega
    simp [hi, List.getD, List.getElem?_eq_none h2]

/-- total form: what `sidx` does on every index -/
theorem sidx_total (T : List String) (i : Int) :
    Gen.FnS.sidx T i = if 0 ≤ i ∧ i < T.length then .ok (Model.strGetD T i) else .error .panic := by
  by_cases h : 0 ≤ i ∧ i < T.length
  · rw [if_pos h]; exact sidx_eq_strGetD T i h.1 h.2
  · rw [if_neg h]; exact sidx_panic T i (by omega)

/-! Reads of a table whose length is known as a numeral (`hn` is closed by `rfl` at each use). -/

theorem sidx_in (T : List String) (n : Nat) (hn : T.length = n) (i : Int) (h0 : 0 ≤ i) (h1 : i < n) :
    Gen.FnS.sidx T i = .ok (Model.strGetD T i) := sidx_eq_strGetD T i h0 (hn ▸ h1)

theorem sidx_out (T : List String) (n : Nat) (hn : T.length = n) (i : Int) (h : i < 0 ∨ (n : Int) ≤ i) :
    Gen.FnS.sidx T i = .error .panic := sidx_panic T i (hn ▸ h)

/-- most `LunarUtil` tables have a leading "" entry and are read at `i + 1`, so that −1 is in range -/
theorem sidx_succ (T : List String) (n : Nat) (hn : T.length = n + 1) (i : Int) (h0 : -1 ≤ i) (h1 : i < n) :
    Gen.FnS.sidx T (i + 1) = .ok (Model.strGetD T (i + 1)) := sidx_in T _ hn _ (by omega) (by omega)

theorem sidx_succ_out (T : List String) (n : Nat) (hn : T.length = n + 1) (i : Int) (h : i < -1 ∨ (n : Int) ≤ i) :
    Gen.FnS.sidx T (i + 1) = .error .panic := sidx_out T _ hn _ (by omega)

theorem sidx_nat (T : List String) (k : Nat) (h : k < T.length) : Gen.FnS.sidx T (k : Int) = .ok T[k] := by
  simp [Gen.FnS.sidx, List.getElem?_eq_getElem h, pure, Except.pure]

theorem mlookupS_eq_lookupStr (T : List (String × String)) (k : String) :
    Gen.FnS.mlookupS T k = Model.lookupStr T k := by
  unfold Gen.FnS.mlookupS Model.lookupStr Model.lookupS
  cases T.find? (fun p => p.1 == k) <;> rfl

theorem mlookupI_eq (T : List (String × Int)) (k : String) :
    Gen.FnS.mlookupI T k = (Model.lookupS T k).getD 0 := by
  unfold Gen.FnS.mlookupI Model.lookupS
  cases T.find? (fun p => p.1 == k) <;> rfl

theorem mhas_eq {α : Type} (T : List (String × α)) (k : String) :
    Gen.FnS.mhas T k = (Model.lookupS T k).isSome := by
  unfold Gen.FnS.mhas Model.lookupS
  induction T with
  | nil => rfl
  | cons p T ih =>
    by_cases hp : (p.1 == k) = true
    · simp [List.find?, hp]
    · simp only [Bool.not_eq_true] at hp
      simp only [List.any_cons, hp, Bool.false_or, List.find?]
      exact ih

theorem lookupS_getD_nonneg (T : List (String × Int)) (hT : T.all (fun p => decide (0 ≤ p.2)) = true) (k : String) :
    0 ≤ (Model.lookupS T k).getD 0 := by
  unfold Model.lookupS
  cases hf : T.find? (fun p => p.1 == k) with
  | none => simp
  | some p => simpa using List.all_eq_true.mp hT p (List.mem_of_find?_eq_some hf)

theorem strCompare_eq_zero (a b : String) : Gen.FnS.strCompare a b = 0 ↔ a = b := by
  unfold Gen.FnS.strCompare
  by_cases h : a = b
  · subst h; simp [String.lt_irrefl]
  · simp only [h, if_false]
    split <;> simp

theorem strCompare_decide_eq (a b : String) : decide (Gen.FnS.strCompare a b = 0) = (b == a) :=
  decide_eq_decide.mpr ((strCompare_eq_zero a b).trans eq_comm)

theorem fmtD_eq (n : Int) : Gen.FnS.fmtD n = toString n := rfl

theorem tmod2_eq_zero (x : Int) : (Int.tmod x 2 = 0) ↔ (x % 2 = 0) :=
  ⟨fun h => Int.emod_eq_zero_of_dvd (Int.dvd_of_tmod_eq_zero h), fun h => Int.tmod_eq_zero_of_dvd (Int.dvd_of_emod_eq_zero h)⟩

theorem strContains_eq (group d : String) (hd : d ≠ "") :
    Gen.FnS.strContains group d = decide ((group.splitOn d).length > 1) := by
  unfold Gen.FnS.strContains
  have : d.isEmpty = false := by
    cases h : d.isEmpty with
    | false => rfl
    | true => exact absurd (String.isEmpty_iff.mp h) hd
  rw [this]; simp

theorem runesSlice_head (c : Char) (zl : List Char) :
    Gen.FnS.runesSlice (c :: zl) 0 1 = .ok [c] := by
  unfold Gen.FnS.runesSlice
  rw [if_neg (by simp only [List.length_cons]; omega)]; rfl

theorem runesSlice_tail (c : Char) (zl : List Char) :
    Gen.FnS.runesSlice (c :: zl) 1 ((c :: zl).length : Int) = .ok zl := by
  unfold Gen.FnS.runesSlice
  rw [if_neg (by simp only [List.length_cons]; omega),
    show (((c :: zl).length : Nat) : Int).toNat - (1 : Int).toNat = zl.length by simp only [List.length_cons]; omega]
  simp [pure, Except.pure]

def solarToM (s : Gen.FnS.Solar) : Model.Solar := ⟨s.year, s.month, s.day, s.hour, s.minute, s.second⟩
def solarOfM (s : Model.Solar) : Gen.FnS.Solar := ⟨s.year, s.month, s.day, s.hour, s.minute, s.second⟩

@[simp] theorem solarToM_ofM (s : Model.Solar) : solarToM (solarOfM s) = s := rfl
@[simp] theorem solarOfM_toM (s : Gen.FnS.Solar) : solarOfM (solarToM s) = s := rfl
@[simp] theorem solarToM_year (s : Gen.FnS.Solar) : (solarToM s).year = s.year := rfl
@[simp] theorem solarToM_month (s : Gen.FnS.Solar) : (solarToM s).month = s.month := rfl
@[simp] theorem solarToM_day (s : Gen.FnS.Solar) : (solarToM s).day = s.day := rfl
@[simp] theorem solarToM_hour (s : Gen.FnS.Solar) : (solarToM s).hour = s.hour := rfl
@[simp] theorem solarToM_minute (s : Gen.FnS.Solar) : (solarToM s).minute = s.minute := rfl
@[simp] theorem solarToM_second (s : Gen.FnS.Solar) : (solarToM s).second = s.second := rfl
@[simp] theorem solarOfM_year (s : Model.Solar) : (solarOfM s).year = s.year := rfl
@[simp] theorem solarOfM_month (s : Model.Solar) : (solarOfM s).month = s.month := rfl
@[simp] theorem solarOfM_day (s : Model.Solar) : (solarOfM s).day = s.day := rfl
@[simp] theorem solarOfM_hour (s : Model.Solar) : (solarOfM s).hour = s.hour := rfl
@[simp] theorem solarOfM_minute (s : Model.Solar) : (solarOfM s).minute = s.minute := rfl
@[simp] theorem solarOfM_second (s : Model.Solar) : (solarOfM s).second = s.second := rfl

/-- `Model.Lunar` has one field more than `Gen.FnS.Lunar`: `terms` (the Go `jieQi` map / `jieQiList`,
not modelled by the generated structure); it is a parameter. -/
def lunarToM (l : Gen.FnS.Lunar) (terms : List Model.Solar) : Model.Lunar :=
  { year := l.year, month := l.month, day := l.day, hour := l.hour, minute := l.minute, second := l.second,
    yearGanIndex := l.yearGanIndex, yearZhiIndex := l.yearZhiIndex,
    yearGanIndexByLiChun := l.yearGanIndexByLiChun, yearZhiIndexByLiChun := l.yearZhiIndexByLiChun,
    yearGanIndexExact := l.yearGanIndexExact, yearZhiIndexExact := l.yearZhiIndexExact,
    monthGanIndex := l.monthGanIndex, monthZhiIndex := l.monthZhiIndex,
    monthGanIndexExact := l.monthGanIndexExact, monthZhiIndexExact := l.monthZhiIndexExact,
    dayGanIndex := l.dayGanIndex, dayZhiIndex := l.dayZhiIndex,
    dayGanIndexExact := l.dayGanIndexExact, dayZhiIndexExact := l.dayZhiIndexExact,
    dayGanIndexExact2 := l.dayGanIndexExact2, dayZhiIndexExact2 := l.dayZhiIndexExact2,
    timeGanIndex := l.timeGanIndex, timeZhiIndex := l.timeZhiIndex,
    weekIndex := l.weekIndex, terms := terms, solar := solarToM l.solar }

/-- the other direction (forgets `terms`) -/
def lunarOfM (l : Model.Lunar) : Gen.FnS.Lunar :=
  { year := l.year, month := l.month, day := l.day, hour := l.hour, minute := l.minute, second := l.second,
    yearGanIndex := l.yearGanIndex, yearZhiIndex := l.yearZhiIndex,
    yearGanIndexByLiChun := l.yearGanIndexByLiChun, yearZhiIndexByLiChun := l.yearZhiIndexByLiChun,
    yearGanIndexExact := l.yearGanIndexExact, yearZhiIndexExact := l.yearZhiIndexExact,
    monthGanIndex := l.monthGanIndex, monthZhiIndex := l.monthZhiIndex,
    monthGanIndexExact := l.monthGanIndexExact, monthZhiIndexExact := l.monthZhiIndexExact,
    dayGanIndex := l.dayGanIndex, dayZhiIndex := l.dayZhiIndex,
    dayGanIndexExact := l.dayGanIndexExact, dayZhiIndexExact := l.dayZhiIndexExact,
    dayGanIndexExact2 := l.dayGanIndexExact2, dayZhiIndexExact2 := l.dayZhiIndexExact2,
    timeGanIndex := l.timeGanIndex, timeZhiIndex := l.timeZhiIndex,
    weekIndex := l.weekIndex, solar := solarOfM l.solar }

@[simp] theorem lunarToM_ofM (l : Model.Lunar) : lunarToM (lunarOfM l) l.terms = l := rfl
@[simp] theorem lunarOfM_toM (l : Gen.FnS.Lunar) (t : List Model.Solar) : lunarOfM (lunarToM l t) = l := rfl

section
variable (l : Gen.FnS.Lunar) (t : List Model.Solar)
@[simp] theorem lunarToM_year : (lunarToM l t).year = l.year := rfl
@[simp] theorem lunarToM_month : (lunarToM l t).month = l.month := rfl
@[simp] theorem lunarToM_day : (lunarToM l t).day = l.day := rfl
@[simp] theorem lunarToM_hour : (lunarToM l t).hour = l.hour := rfl
@[simp] theorem lunarToM_minute : (lunarToM l t).minute = l.minute := rfl
@[simp] theorem lunarToM_second : (lunarToM l t).second = l.second := rfl
@[simp] theorem lunarToM_yearGanIndex : (lunarToM l t).yearGanIndex = l.yearGanIndex := rfl
@[simp] theorem lunarToM_yearZhiIndex : (lunarToM l t).yearZhiIndex = l.yearZhiIndex := rfl
@[simp] theorem lunarToM_yearGanIndexByLiChun : (lunarToM l t).yearGanIndexByLiChun = l.yearGanIndexByLiChun := rfl
@[simp] theorem lunarToM_yearZhiIndexByLiChun : (lunarToM l t).yearZhiIndexByLiChun = l.yearZhiIndexByLiChun := rfl
@[simp] theorem lunarToM_yearGanIndexExact : (lunarToM l t).yearGanIndexExact = l.yearGanIndexExact := rfl
@[simp] theorem lunarToM_yearZhiIndexExact : (lunarToM l t).yearZhiIndexExact = l.yearZhiIndexExact := rfl
@[simp] theorem lunarToM_monthGanIndex : (lunarToM l t).monthGanIndex = l.monthGanIndex := rfl
@[simp] theorem lunarToM_monthZhiIndex : (lunarToM l t).monthZhiIndex = l.monthZhiIndex := rfl
@[simp] theorem lunarToM_monthGanIndexExact : (lunarToM l t).monthGanIndexExact = l.monthGanIndexExact := rfl
@[simp] theorem lunarToM_monthZhiIndexExact : (lunarToM l t).monthZhiIndexExact = l.monthZhiIndexExact := rfl
@[simp] theorem lunarToM_dayGanIndex : (lunarToM l t).dayGanIndex = l.dayGanIndex := rfl
@[simp] theorem lunarToM_dayZhiIndex : (lunarToM l t).dayZhiIndex = l.dayZhiIndex := rfl
@[simp] theorem lunarToM_dayGanIndexExact : (lunarToM l t).dayGanIndexExact = l.dayGanIndexExact := rfl
@[simp] theorem lunarToM_dayZhiIndexExact : (lunarToM l t).dayZhiIndexExact = l.dayZhiIndexExact := rfl
@[simp] theorem lunarToM_dayGanIndexExact2 : (lunarToM l t).dayGanIndexExact2 = l.dayGanIndexExact2 := rfl
@[simp] theorem lunarToM_dayZhiIndexExact2 : (lunarToM l t).dayZhiIndexExact2 = l.dayZhiIndexExact2 := rfl
@[simp] theorem lunarToM_timeGanIndex : (lunarToM l t).timeGanIndex = l.timeGanIndex := rfl
@[simp] theorem lunarToM_timeZhiIndex : (lunarToM l t).timeZhiIndex = l.timeZhiIndex := rfl
@[simp] theorem lunarToM_weekIndex : (lunarToM l t).weekIndex = l.weekIndex := rfl
@[simp] theorem lunarToM_terms : (lunarToM l t).terms = t := rfl
@[simp] theorem lunarToM_solar : (lunarToM l t).solar = solarToM l.solar := rfl
end

theorem sb_bind_ok {α β : Type} (a : α) (f : α → Except Err β) : ((Except.ok a : Except Err α) >>= f) = f a := rfl
theorem sb_bind_err {α β : Type} (e : Err) (f : α → Except Err β) : ((Except.error e : Except Err α) >>= f) = .error e := rfl

theorem bind_panic {α β : Type} {x : Except Err α} (h : x = .error .panic) (f : α → Except Err β) :
    (x >>= f) = .error .panic := h ▸ rfl

theorem bind_mlookupS {x : Except Err String} {v : String} (h : x = .ok v) (T : List (String × String)) :
    (x >>= fun t => pure (Gen.FnS.mlookupS T t)) = .ok (Model.lookupStr T v) := by
  rw [h, sb_bind_ok, mlookupS_eq_lookupStr]; rfl

/-- a conditional adjustment of a variable before it is used: Go's `if c { a = … }; f(a)` against the model's `f (if c then … else a)` -/
theorem ite_decide_apply {α β : Type} (c : Prop) [Decidable c] (f : α → β) (a b : α) :
    (if decide c = true then f a else f b) = f (if c then a else b) := by
  by_cases h : c <;> simp [h]

theorem ite_decide_apply₂ {α β γ : Type} (c : Prop) [Decidable c] (f : α → β → γ) (a a' : α) (b b' : β) :
    (if decide c = true then f a b else f a' b') = f (if c then a else a') (if c then b else b') := by
  by_cases h : c <;> simp [h]

/-- one arm of a `switch` or `if … else if …` chain that answers a constant; the rest of the chain is met only when the test fails -/
theorem ite_pure_ok {α : Type} {c : Prop} [Decidable c] {b : Bool} (hb : b = decide c) (a : α) {x : Except Err α} {y : α}
    (h : ¬ c → x = .ok y) : (if b = true then pure a else x) = .ok (if c then a else y) := by
  subst hb; by_cases hc : c <;> simp [hc, h, pure, Except.pure]

theorem forIn_range (n : Nat) {β : Type} (b : β) (f : Nat → β → Except Err (ForInStep β)) :
    forIn [0:n] b f = forIn (List.range' 0 n) b f := by
  rw [Std.Legacy.Range.forIn_eq_forIn_range']; simp [Std.Legacy.Range.size]

/-- The search loops `for i, v := range T { if v == x { …; break } }` (or `return`): the body leaves with `d i` at a hit and otherwise goes on
with the state unchanged, so the loop yields `d` at the first position of `x` in `T`, or the initial state. -/
theorem forIn_search {β : Type} (x : String) (b : β) (d : Nat → β) (f : Nat → β → Except Err (ForInStep β)) :
    ∀ (T : List String) (s : Nat),
      (∀ k (hk : k < T.length), f (s + k) b = if T[k] = x then pure (.done (d (s + k))) else pure (.yield b)) →
      forIn (List.range' s T.length) b f = .ok (match T.findIdx? (· == x) with | some i => d (s + i) | none => b)
  | [], _, _ => rfl
  | v :: r, s, hf => by
    have ih := forIn_search x b d f r (s + 1) fun k hk => by
      rw [Nat.add_right_comm]; exact hf (k + 1) (Nat.succ_lt_succ hk)
    rw [List.length_cons, List.range'_succ, List.forIn_cons, show f s b = _ from hf 0 (Nat.zero_lt_succ _),
      List.getElem_cons_zero, List.findIdx?_cons]
    by_cases hx : v = x
    · rw [if_pos hx, beq_iff_eq.mpr hx]; rfl
    · rw [if_neg hx, beq_false_of_ne hx]
      refine ih.trans ?_
      cases r.findIdx? (· == x) <;> simp [Nat.add_assoc, Nat.add_comm 1]

theorem forIn_range_search {β : Type} (T : List String) (n : Nat) (hn : T.length = n) (x : String) (b : β) (d : Nat → β)
    (f : Nat → β → Except Err (ForInStep β))
    (hf : ∀ k (hk : k < T.length), f k b = if T[k] = x then pure (.done (d k)) else pure (.yield b)) :
    forIn [0:n] b f = .ok (match T.findIdx? (· == x) with | some i => d i | none => b) := by
  subst hn
  rw [forIn_range, forIn_search x b d f T 0 (by simpa using hf)]
  simp only [Nat.zero_add]

/-- the body of a search loop `for _, v := range T { if x == v { … } }` at an index inside the table, in the form
`forIn_range_search` asks for -/
theorem searchStep {β : Type} (T : List String) (x : String) (k : Nat) (hk : k < T.length) (a b : Except Err β) :
    (do let v ← Gen.FnS.sidx T (k : Int); if decide (Gen.FnS.strCompare x v = 0) = true then a else b)
      = if T[k] = x then a else b := by
  simp only [sidx_nat T k hk, sb_bind_ok, decide_eq_true_eq, strCompare_eq_zero, eq_comm (a := x)]

/-- `if ok { return true }; return false` -/
theorem ret_bool (b : Bool) : (if b = true then (pure true : Except Err Bool) else pure false) = .ok b := by
  cases b <;> rfl

/-- a property of an index holds on `lo ≤ i < lo + n` if it holds at each of the `n` points (where it is checked by evaluation) -/
theorem forall_range (P : Int → Prop) (lo : Int) (n : Nat) (h : ∀ k : Fin n, P (lo + k)) (i : Int) (h0 : lo ≤ i) (h1 : i < lo + n) :
    P i := by
  have := h ⟨(i - lo).toNat, by omega⟩
  rwa [show lo + ((i - lo).toNat : Int) = i by omega] at this

/-- `LunarUtil.GAN[g+1]` -/
theorem sidx_GAN (g : Int) (h0 : -1 ≤ g) (h1 : g < 10) :
    Gen.FnS.sidx Gen.Tables.LunarUtil.«GAN» (g + 1) = .ok (Model.ganStr g) := sidx_succ _ 10 rfl g h0 h1

theorem sidx_GAN_panic (g : Int) (h : g < -1 ∨ 10 ≤ g) :
    Gen.FnS.sidx Gen.Tables.LunarUtil.«GAN» (g + 1) = .error .panic := sidx_succ_out _ 10 rfl g h

/-- `LunarUtil.ZHI[z+1]` -/
theorem sidx_ZHI (z : Int) (h0 : -1 ≤ z) (h1 : z < 12) :
    Gen.FnS.sidx Gen.Tables.LunarUtil.«ZHI» (z + 1) = .ok (Model.zhiStr z) := sidx_succ _ 12 rfl z h0 h1

theorem sidx_ZHI_panic (z : Int) (h : z < -1 ∨ 12 ≤ z) :
    Gen.FnS.sidx Gen.Tables.LunarUtil.«ZHI» (z + 1) = .error .panic := sidx_succ_out _ 12 rfl z h

/-- the model's stem / branch strings as plain table reads -/
theorem ganStr_eq_strGetD (g : Int) : Model.ganStr g = Model.strGetD Gen.Tables.LunarUtil.«GAN» (g + 1) := rfl
theorem zhiStr_eq_strGetD (z : Int) : Model.zhiStr z = Model.strGetD Gen.Tables.LunarUtil.«ZHI» (z + 1) := rfl

/-- how every `…InGanZhi…` accessor builds a pillar name: stem name, then branch name -/
def readPillar (g z : Int) : Except Err String := do
  let a ← Gen.FnS.sidx Gen.Tables.LunarUtil.«GAN» (g + 1)
  let b ← Gen.FnS.sidx Gen.Tables.LunarUtil.«ZHI» (z + 1)
  return a ++ b

theorem readPillar_eq (g z : Int) (g0 : -1 ≤ g) (g1 : g < 10) (z0 : -1 ≤ z) (z1 : z < 12) :
    readPillar g z = .ok (Model.EightChar.pillarStr g z) := by
  unfold readPillar; rw [sidx_GAN g g0 g1, sidx_ZHI z z0 z1]; rfl

theorem readPillar_panic (g z : Int) (h : g < -1 ∨ 10 ≤ g ∨ z < -1 ∨ 12 ≤ z) :
    readPillar g z = .error .panic := by
  unfold readPillar
  by_cases hg : g < -1 ∨ 10 ≤ g
  · rw [sidx_GAN_panic g hg]; rfl
  · rw [sidx_GAN g (by omega) (by omega), sidx_ZHI_panic z (by omega)]; rfl

/-- the god of fortune by school: 1 reads `POSITION_FU`, anything else `POSITION_FU_2` -/
theorem positionFu_read (g sect : Int) (h0 : -1 ≤ g) (h1 : g < 10) :
    (if decide (1 = sect) = true then Gen.FnS.sidx Gen.Tables.LunarUtil.«POSITION_FU» (g + 1)
      else Gen.FnS.sidx Gen.Tables.LunarUtil.«POSITION_FU_2» (g + 1)) = .ok (Model.positionFu g sect) := by
  unfold Model.positionFu
  by_cases hs : sect = 1
  · rw [if_pos hs, if_pos (decide_eq_true hs.symm)]; exact sidx_succ _ 10 rfl g h0 h1
  · rw [if_neg hs, if_neg (by simpa using Ne.symm hs)]; exact sidx_succ _ 10 rfl g h0 h1

theorem positionFu_panic (g sect : Int) (h : g < -1 ∨ 10 ≤ g) :
    (if decide (1 = sect) = true then Gen.FnS.sidx Gen.Tables.LunarUtil.«POSITION_FU» (g + 1)
      else Gen.FnS.sidx Gen.Tables.LunarUtil.«POSITION_FU_2» (g + 1)) = .error .panic := by
  split <;> exact sidx_succ_out _ 10 rfl g h

theorem sha_read (z : Int) (h0 : -1 ≤ z) (h1 : z < 12) :
    (Gen.FnS.sidx Gen.Tables.LunarUtil.«ZHI» (z + 1) >>= fun t => pure (Gen.FnS.mlookupS Gen.Tables.LunarUtil.«SHA» t)) = .ok (Model.sha z) :=
  bind_mlookupS (sidx_ZHI z h0 h1) _

section
variable (l : Gen.FnS.Lunar)

theorem lunarGetYearGan_eq (h0 : -1 ≤ l.yearGanIndex) (h1 : l.yearGanIndex < 10) :
    Gen.FnS.calendar_Lunar_GetYearGan l = .ok (Model.ganStr l.yearGanIndex) := sidx_GAN _ h0 h1
theorem lunarGetYearGanByLiChun_eq (h0 : -1 ≤ l.yearGanIndexByLiChun) (h1 : l.yearGanIndexByLiChun < 10) :
    Gen.FnS.calendar_Lunar_GetYearGanByLiChun l = .ok (Model.ganStr l.yearGanIndexByLiChun) := sidx_GAN _ h0 h1
theorem lunarGetYearGanExact_eq (h0 : -1 ≤ l.yearGanIndexExact) (h1 : l.yearGanIndexExact < 10) :
    Gen.FnS.calendar_Lunar_GetYearGanExact l = .ok (Model.ganStr l.yearGanIndexExact) := sidx_GAN _ h0 h1
theorem lunarGetMonthGan_eq (h0 : -1 ≤ l.monthGanIndex) (h1 : l.monthGanIndex < 10) :
    Gen.FnS.calendar_Lunar_GetMonthGan l = .ok (Model.ganStr l.monthGanIndex) := sidx_GAN _ h0 h1
theorem lunarGetMonthGanExact_eq (h0 : -1 ≤ l.monthGanIndexExact) (h1 : l.monthGanIndexExact < 10) :
    Gen.FnS.calendar_Lunar_GetMonthGanExact l = .ok (Model.ganStr l.monthGanIndexExact) := sidx_GAN _ h0 h1
theorem lunarGetDayGan_eq (h0 : -1 ≤ l.dayGanIndex) (h1 : l.dayGanIndex < 10) :
    Gen.FnS.calendar_Lunar_GetDayGan l = .ok (Model.ganStr l.dayGanIndex) := sidx_GAN _ h0 h1
theorem lunarGetDayGanExact_eq (h0 : -1 ≤ l.dayGanIndexExact) (h1 : l.dayGanIndexExact < 10) :
    Gen.FnS.calendar_Lunar_GetDayGanExact l = .ok (Model.ganStr l.dayGanIndexExact) := sidx_GAN _ h0 h1
theorem lunarGetDayGanExact2_eq (h0 : -1 ≤ l.dayGanIndexExact2) (h1 : l.dayGanIndexExact2 < 10) :
    Gen.FnS.calendar_Lunar_GetDayGanExact2 l = .ok (Model.ganStr l.dayGanIndexExact2) := sidx_GAN _ h0 h1
theorem lunarGetTimeGan_eq (h0 : -1 ≤ l.timeGanIndex) (h1 : l.timeGanIndex < 10) :
    Gen.FnS.calendar_Lunar_GetTimeGan l = .ok (Model.ganStr l.timeGanIndex) := sidx_GAN _ h0 h1

theorem lunarGetYearZhi_eq (h0 : -1 ≤ l.yearZhiIndex) (h1 : l.yearZhiIndex < 12) :
    Gen.FnS.calendar_Lunar_GetYearZhi l = .ok (Model.zhiStr l.yearZhiIndex) := sidx_ZHI _ h0 h1
theorem lunarGetYearZhiByLiChun_eq (h0 : -1 ≤ l.yearZhiIndexByLiChun) (h1 : l.yearZhiIndexByLiChun < 12) :
    Gen.FnS.calendar_Lunar_GetYearZhiByLiChun l = .ok (Model.zhiStr l.yearZhiIndexByLiChun) := sidx_ZHI _ h0 h1
theorem lunarGetYearZhiExact_eq (h0 : -1 ≤ l.yearZhiIndexExact) (h1 : l.yearZhiIndexExact < 12) :
    Gen.FnS.calendar_Lunar_GetYearZhiExact l = .ok (Model.zhiStr l.yearZhiIndexExact) := sidx_ZHI _ h0 h1
theorem lunarGetMonthZhi_eq (h0 : -1 ≤ l.monthZhiIndex) (h1 : l.monthZhiIndex < 12) :
    Gen.FnS.calendar_Lunar_GetMonthZhi l = .ok (Model.zhiStr l.monthZhiIndex) := sidx_ZHI _ h0 h1
theorem lunarGetMonthZhiExact_eq (h0 : -1 ≤ l.monthZhiIndexExact) (h1 : l.monthZhiIndexExact < 12) :
    Gen.FnS.calendar_Lunar_GetMonthZhiExact l = .ok (Model.zhiStr l.monthZhiIndexExact) := sidx_ZHI _ h0 h1
theorem lunarGetDayZhi_eq (h0 : -1 ≤ l.dayZhiIndex) (h1 : l.dayZhiIndex < 12) :
    Gen.FnS.calendar_Lunar_GetDayZhi l = .ok (Model.zhiStr l.dayZhiIndex) := sidx_ZHI _ h0 h1
theorem lunarGetDayZhiExact_eq (h0 : -1 ≤ l.dayZhiIndexExact) (h1 : l.dayZhiIndexExact < 12) :
    Gen.FnS.calendar_Lunar_GetDayZhiExact l = .ok (Model.zhiStr l.dayZhiIndexExact) := sidx_ZHI _ h0 h1
theorem lunarGetDayZhiExact2_eq (h0 : -1 ≤ l.dayZhiIndexExact2) (h1 : l.dayZhiIndexExact2 < 12) :
    Gen.FnS.calendar_Lunar_GetDayZhiExact2 l = .ok (Model.zhiStr l.dayZhiIndexExact2) := sidx_ZHI _ h0 h1
theorem lunarGetTimeZhi_eq (h0 : -1 ≤ l.timeZhiIndex) (h1 : l.timeZhiIndex < 12) :
    Gen.FnS.calendar_Lunar_GetTimeZhi l = .ok (Model.zhiStr l.timeZhiIndex) := sidx_ZHI _ h0 h1

theorem lunarGetYearGan_panic (h : l.yearGanIndex < -1 ∨ 10 ≤ l.yearGanIndex) :
    Gen.FnS.calendar_Lunar_GetYearGan l = .error .panic := sidx_GAN_panic _ h
theorem lunarGetYearGanByLiChun_panic (h : l.yearGanIndexByLiChun < -1 ∨ 10 ≤ l.yearGanIndexByLiChun) :
    Gen.FnS.calendar_Lunar_GetYearGanByLiChun l = .error .panic := sidx_GAN_panic _ h
theorem lunarGetYearGanExact_panic (h : l.yearGanIndexExact < -1 ∨ 10 ≤ l.yearGanIndexExact) :
    Gen.FnS.calendar_Lunar_GetYearGanExact l = .error .panic := sidx_GAN_panic _ h
theorem lunarGetMonthGan_panic (h : l.monthGanIndex < -1 ∨ 10 ≤ l.monthGanIndex) :
    Gen.FnS.calendar_Lunar_GetMonthGan l = .error .panic := sidx_GAN_panic _ h
theorem lunarGetMonthGanExact_panic (h : l.monthGanIndexExact < -1 ∨ 10 ≤ l.monthGanIndexExact) :
    Gen.FnS.calendar_Lunar_GetMonthGanExact l = .error .panic := sidx_GAN_panic _ h
theorem lunarGetDayGan_panic (h : l.dayGanIndex < -1 ∨ 10 ≤ l.dayGanIndex) :
    Gen.FnS.calendar_Lunar_GetDayGan l = .error .panic := sidx_GAN_panic _ h
theorem lunarGetDayGanExact_panic (h : l.dayGanIndexExact < -1 ∨ 10 ≤ l.dayGanIndexExact) :
    Gen.FnS.calendar_Lunar_GetDayGanExact l = .error .panic := sidx_GAN_panic _ h
theorem lunarGetDayGanExact2_panic (h : l.dayGanIndexExact2 < -1 ∨ 10 ≤ l.dayGanIndexExact2) :
    Gen.FnS.calendar_Lunar_GetDayGanExact2 l = .error .panic := sidx_GAN_panic _ h
theorem lunarGetTimeGan_panic (h : l.timeGanIndex < -1 ∨ 10 ≤ l.timeGanIndex) :
    Gen.FnS.calendar_Lunar_GetTimeGan l = .error .panic := sidx_GAN_panic _ h
theorem lunarGetYearZhi_panic (h : l.yearZhiIndex < -1 ∨ 12 ≤ l.yearZhiIndex) :
    Gen.FnS.calendar_Lunar_GetYearZhi l = .error .panic := sidx_ZHI_panic _ h
theorem lunarGetYearZhiByLiChun_panic (h : l.yearZhiIndexByLiChun < -1 ∨ 12 ≤ l.yearZhiIndexByLiChun) :
    Gen.FnS.calendar_Lunar_GetYearZhiByLiChun l = .error .panic := sidx_ZHI_panic _ h
theorem lunarGetYearZhiExact_panic (h : l.yearZhiIndexExact < -1 ∨ 12 ≤ l.yearZhiIndexExact) :
    Gen.FnS.calendar_Lunar_GetYearZhiExact l = .error .panic := sidx_ZHI_panic _ h
theorem lunarGetMonthZhi_panic (h : l.monthZhiIndex < -1 ∨ 12 ≤ l.monthZhiIndex) :
    Gen.FnS.calendar_Lunar_GetMonthZhi l = .error .panic := sidx_ZHI_panic _ h
theorem lunarGetMonthZhiExact_panic (h : l.monthZhiIndexExact < -1 ∨ 12 ≤ l.monthZhiIndexExact) :
    Gen.FnS.calendar_Lunar_GetMonthZhiExact l = .error .panic := sidx_ZHI_panic _ h
theorem lunarGetDayZhi_panic (h : l.dayZhiIndex < -1 ∨ 12 ≤ l.dayZhiIndex) :
    Gen.FnS.calendar_Lunar_GetDayZhi l = .error .panic := sidx_ZHI_panic _ h
theorem lunarGetDayZhiExact_panic (h : l.dayZhiIndexExact < -1 ∨ 12 ≤ l.dayZhiIndexExact) :
    Gen.FnS.calendar_Lunar_GetDayZhiExact l = .error .panic := sidx_ZHI_panic _ h
theorem lunarGetDayZhiExact2_panic (h : l.dayZhiIndexExact2 < -1 ∨ 12 ≤ l.dayZhiIndexExact2) :
    Gen.FnS.calendar_Lunar_GetDayZhiExact2 l = .error .panic := sidx_ZHI_panic _ h
theorem lunarGetTimeZhi_panic (h : l.timeZhiIndex < -1 ∨ 12 ≤ l.timeZhiIndex) :
    Gen.FnS.calendar_Lunar_GetTimeZhi l = .error .panic := sidx_ZHI_panic _ h

theorem lunarGetYearInGanZhi_eq (g0 : -1 ≤ l.yearGanIndex) (g1 : l.yearGanIndex < 10)
    (z0 : -1 ≤ l.yearZhiIndex) (z1 : l.yearZhiIndex < 12) :
    Gen.FnS.calendar_Lunar_GetYearInGanZhi l = .ok (Model.EightChar.pillarStr l.yearGanIndex l.yearZhiIndex) :=
  readPillar_eq _ _ g0 g1 z0 z1
theorem lunarGetYearInGanZhiByLiChun_eq (g0 : -1 ≤ l.yearGanIndexByLiChun) (g1 : l.yearGanIndexByLiChun < 10)
    (z0 : -1 ≤ l.yearZhiIndexByLiChun) (z1 : l.yearZhiIndexByLiChun < 12) :
    Gen.FnS.calendar_Lunar_GetYearInGanZhiByLiChun l
      = .ok (Model.EightChar.pillarStr l.yearGanIndexByLiChun l.yearZhiIndexByLiChun) :=
  readPillar_eq _ _ g0 g1 z0 z1
theorem lunarGetYearInGanZhiExact_eq (g0 : -1 ≤ l.yearGanIndexExact) (g1 : l.yearGanIndexExact < 10)
    (z0 : -1 ≤ l.yearZhiIndexExact) (z1 : l.yearZhiIndexExact < 12) :
    Gen.FnS.calendar_Lunar_GetYearInGanZhiExact l
      = .ok (Model.EightChar.pillarStr l.yearGanIndexExact l.yearZhiIndexExact) :=
  readPillar_eq _ _ g0 g1 z0 z1
theorem lunarGetMonthInGanZhi_eq (g0 : -1 ≤ l.monthGanIndex) (g1 : l.monthGanIndex < 10)
    (z0 : -1 ≤ l.monthZhiIndex) (z1 : l.monthZhiIndex < 12) :
    Gen.FnS.calendar_Lunar_GetMonthInGanZhi l = .ok (Model.EightChar.pillarStr l.monthGanIndex l.monthZhiIndex) :=
  readPillar_eq _ _ g0 g1 z0 z1
theorem lunarGetMonthInGanZhiExact_eq (g0 : -1 ≤ l.monthGanIndexExact) (g1 : l.monthGanIndexExact < 10)
    (z0 : -1 ≤ l.monthZhiIndexExact) (z1 : l.monthZhiIndexExact < 12) :
    Gen.FnS.calendar_Lunar_GetMonthInGanZhiExact l
      = .ok (Model.EightChar.pillarStr l.monthGanIndexExact l.monthZhiIndexExact) :=
  readPillar_eq _ _ g0 g1 z0 z1
theorem lunarGetDayInGanZhi_eq (g0 : -1 ≤ l.dayGanIndex) (g1 : l.dayGanIndex < 10)
    (z0 : -1 ≤ l.dayZhiIndex) (z1 : l.dayZhiIndex < 12) :
    Gen.FnS.calendar_Lunar_GetDayInGanZhi l = .ok (Model.EightChar.pillarStr l.dayGanIndex l.dayZhiIndex) :=
  readPillar_eq _ _ g0 g1 z0 z1
theorem lunarGetDayInGanZhiExact_eq (g0 : -1 ≤ l.dayGanIndexExact) (g1 : l.dayGanIndexExact < 10)
    (z0 : -1 ≤ l.dayZhiIndexExact) (z1 : l.dayZhiIndexExact < 12) :
    Gen.FnS.calendar_Lunar_GetDayInGanZhiExact l
      = .ok (Model.EightChar.pillarStr l.dayGanIndexExact l.dayZhiIndexExact) :=
  readPillar_eq _ _ g0 g1 z0 z1
theorem lunarGetDayInGanZhiExact2_eq (g0 : -1 ≤ l.dayGanIndexExact2) (g1 : l.dayGanIndexExact2 < 10)
    (z0 : -1 ≤ l.dayZhiIndexExact2) (z1 : l.dayZhiIndexExact2 < 12) :
    Gen.FnS.calendar_Lunar_GetDayInGanZhiExact2 l
      = .ok (Model.EightChar.pillarStr l.dayGanIndexExact2 l.dayZhiIndexExact2) :=
  readPillar_eq _ _ g0 g1 z0 z1
theorem lunarGetTimeInGanZhi_eq (g0 : -1 ≤ l.timeGanIndex) (g1 : l.timeGanIndex < 10)
    (z0 : -1 ≤ l.timeZhiIndex) (z1 : l.timeZhiIndex < 12) :
    Gen.FnS.calendar_Lunar_GetTimeInGanZhi l = .ok (Model.EightChar.pillarStr l.timeGanIndex l.timeZhiIndex) :=
  readPillar_eq _ _ g0 g1 z0 z1

@[simp] theorem lunarGetYear_eq : Gen.FnS.calendar_Lunar_GetYear l = .ok l.year := rfl
@[simp] theorem lunarGetMonth_eq : Gen.FnS.calendar_Lunar_GetMonth l = .ok l.month := rfl
@[simp] theorem lunarGetDay_eq : Gen.FnS.calendar_Lunar_GetDay l = .ok l.day := rfl
@[simp] theorem lunarGetHour_eq : Gen.FnS.calendar_Lunar_GetHour l = .ok l.hour := rfl
@[simp] theorem lunarGetMinute_eq : Gen.FnS.calendar_Lunar_GetMinute l = .ok l.minute := rfl
@[simp] theorem lunarGetSecond_eq : Gen.FnS.calendar_Lunar_GetSecond l = .ok l.second := rfl
@[simp] theorem lunarGetWeek_eq : Gen.FnS.calendar_Lunar_GetWeek l = .ok l.weekIndex := rfl
@[simp] theorem lunarGetYearGanIndex_eq : Gen.FnS.calendar_Lunar_GetYearGanIndex l = .ok l.yearGanIndex := rfl
@[simp] theorem lunarGetYearZhiIndex_eq : Gen.FnS.calendar_Lunar_GetYearZhiIndex l = .ok l.yearZhiIndex := rfl
@[simp] theorem lunarGetYearGanIndexByLiChun_eq :
    Gen.FnS.calendar_Lunar_GetYearGanIndexByLiChun l = .ok l.yearGanIndexByLiChun := rfl
@[simp] theorem lunarGetYearZhiIndexByLiChun_eq :
    Gen.FnS.calendar_Lunar_GetYearZhiIndexByLiChun l = .ok l.yearZhiIndexByLiChun := rfl
@[simp] theorem lunarGetYearGanIndexExact_eq : Gen.FnS.calendar_Lunar_GetYearGanIndexExact l = .ok l.yearGanIndexExact := rfl
@[simp] theorem lunarGetYearZhiIndexExact_eq : Gen.FnS.calendar_Lunar_GetYearZhiIndexExact l = .ok l.yearZhiIndexExact := rfl
@[simp] theorem lunarGetMonthGanIndex_eq : Gen.FnS.calendar_Lunar_GetMonthGanIndex l = .ok l.monthGanIndex := rfl
@[simp] theorem lunarGetMonthZhiIndex_eq : Gen.FnS.calendar_Lunar_GetMonthZhiIndex l = .ok l.monthZhiIndex := rfl
@[simp] theorem lunarGetMonthGanIndexExact_eq :
    Gen.FnS.calendar_Lunar_GetMonthGanIndexExact l = .ok l.monthGanIndexExact := rfl
@[simp] theorem lunarGetMonthZhiIndexExact_eq :
    Gen.FnS.calendar_Lunar_GetMonthZhiIndexExact l = .ok l.monthZhiIndexExact := rfl
@[simp] theorem lunarGetDayGanIndex_eq : Gen.FnS.calendar_Lunar_GetDayGanIndex l = .ok l.dayGanIndex := rfl
@[simp] theorem lunarGetDayZhiIndex_eq : Gen.FnS.calendar_Lunar_GetDayZhiIndex l = .ok l.dayZhiIndex := rfl
@[simp] theorem lunarGetDayGanIndexExact_eq : Gen.FnS.calendar_Lunar_GetDayGanIndexExact l = .ok l.dayGanIndexExact := rfl
@[simp] theorem lunarGetDayZhiIndexExact_eq : Gen.FnS.calendar_Lunar_GetDayZhiIndexExact l = .ok l.dayZhiIndexExact := rfl
@[simp] theorem lunarGetDayGanIndexExact2_eq : Gen.FnS.calendar_Lunar_GetDayGanIndexExact2 l = .ok l.dayGanIndexExact2 := rfl
@[simp] theorem lunarGetDayZhiIndexExact2_eq : Gen.FnS.calendar_Lunar_GetDayZhiIndexExact2 l = .ok l.dayZhiIndexExact2 := rfl
@[simp] theorem lunarGetTimeGanIndex_eq : Gen.FnS.calendar_Lunar_GetTimeGanIndex l = .ok l.timeGanIndex := rfl
@[simp] theorem lunarGetTimeZhiIndex_eq : Gen.FnS.calendar_Lunar_GetTimeZhiIndex l = .ok l.timeZhiIndex := rfl
end

section Axioms
#print axioms sidx_eq_strGetD
#print axioms sidx_eq_strGetD'
#print axioms sidx_panic
#print axioms sidx_total
#print axioms mlookupS_eq_lookupStr
#print axioms mlookupI_eq
#print axioms mhas_eq
#print axioms fmtD_eq
#print axioms sidx_GAN
#print axioms sidx_ZHI
#print axioms lunarGetYearInGanZhi_eq
#print axioms lunarGetDayInGanZhiExact2_eq
#print axioms lunarGetTimeInGanZhi_eq
#print axioms lunarGetTimeZhi_panic
#print axioms lunarGetWeek_eq
end Axioms
end FnSEq
