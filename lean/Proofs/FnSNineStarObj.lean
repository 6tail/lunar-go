/-
Proofs.FnSNineStarObj — accessors of the nine-star object (string-mode generated code = model / tables).
Every naming system reads its own table at the same index: each accessor is by definition `sidx T ns.index`
for a table `T` of nine entries, so the bound `9` in the guards is `T.length` (by evaluating the table).
`s5_fullText` is the text `ToFullString` builds.
-/
import Proofs.FnSBase

namespace FnSEq
open Gen.Fn (Err)
open Gen.Tables

section
variable (ns : Gen.FnS.NineStar)

@[simp] theorem nineStarGetIndex_eq : Gen.FnS.calendar_NineStar_GetIndex ns = .ok ns.index := rfl

theorem newNineStar_eq (i : Int) : Gen.FnS.calendar_NewNineStar i = .ok ⟨i⟩ := rfl

theorem nineStarGetNumber_eq (h0 : 0 ≤ ns.index) (h1 : ns.index < 9) :
    Gen.FnS.calendar_NineStar_GetNumber ns = .ok (Model.strGetD calendar.«NUMBER» ns.index) :=
  sidx_eq_strGetD _ _ h0 h1
theorem nineStarGetColor_eq (h0 : 0 ≤ ns.index) (h1 : ns.index < 9) :
    Gen.FnS.calendar_NineStar_GetColor ns = .ok (Model.strGetD calendar.«COLOR» ns.index) :=
  sidx_eq_strGetD _ _ h0 h1
theorem nineStarGetWuXing_eq (h0 : 0 ≤ ns.index) (h1 : ns.index < 9) :
    Gen.FnS.calendar_NineStar_GetWuXing ns = .ok (Model.strGetD calendar.«WU_XING» ns.index) :=
  sidx_eq_strGetD _ _ h0 h1
theorem nineStarGetPosition_eq (h0 : 0 ≤ ns.index) (h1 : ns.index < 9) :
    Gen.FnS.calendar_NineStar_GetPosition ns = .ok (Model.strGetD calendar.«POSITION» ns.index) :=
  sidx_eq_strGetD _ _ h0 h1
/-- `LunarUtil.POSITION_DESC[POSITION[index]]` (Go map read; "" for a missing key) -/
theorem nineStarGetPositionDesc_eq (h0 : 0 ≤ ns.index) (h1 : ns.index < 9) :
    Gen.FnS.calendar_NineStar_GetPositionDesc ns
      = .ok (Model.lookupStr LunarUtil.«POSITION_DESC» (Model.strGetD calendar.«POSITION» ns.index)) :=
  bind_mlookupS (nineStarGetPosition_eq ns h0 h1) _
theorem nineStarGetNameInXuanKong_eq (h0 : 0 ≤ ns.index) (h1 : ns.index < 9) :
    Gen.FnS.calendar_NineStar_GetNameInXuanKong ns = .ok (Model.strGetD calendar.«NAME_XUAN_KONG» ns.index) :=
  sidx_eq_strGetD _ _ h0 h1
theorem nineStarGetLuckInXuanKong_eq (h0 : 0 ≤ ns.index) (h1 : ns.index < 9) :
    Gen.FnS.calendar_NineStar_GetLuckInXuanKong ns = .ok (Model.strGetD calendar.«LUCK_XUAN_KONG» ns.index) :=
  sidx_eq_strGetD _ _ h0 h1
theorem nineStarGetNameInBeiDou_eq (h0 : 0 ≤ ns.index) (h1 : ns.index < 9) :
    Gen.FnS.calendar_NineStar_GetNameInBeiDou ns = .ok (Model.strGetD calendar.«NAME_BEI_DOU» ns.index) :=
  sidx_eq_strGetD _ _ h0 h1
theorem nineStarGetNameInQiMen_eq (h0 : 0 ≤ ns.index) (h1 : ns.index < 9) :
    Gen.FnS.calendar_NineStar_GetNameInQiMen ns = .ok (Model.strGetD calendar.«NAME_QI_MEN» ns.index) :=
  sidx_eq_strGetD _ _ h0 h1
theorem nineStarGetBaMenInQiMen_eq (h0 : 0 ≤ ns.index) (h1 : ns.index < 9) :
    Gen.FnS.calendar_NineStar_GetBaMenInQiMen ns = .ok (Model.strGetD calendar.«BA_MEN_QI_MEN» ns.index) :=
  sidx_eq_strGetD _ _ h0 h1
theorem nineStarGetYinYangInQiMen_eq (h0 : 0 ≤ ns.index) (h1 : ns.index < 9) :
    Gen.FnS.calendar_NineStar_GetYinYangInQiMen ns = .ok (Model.strGetD calendar.«YIN_YANG_QI_MEN» ns.index) :=
  sidx_eq_strGetD _ _ h0 h1
theorem nineStarGetLuckInQiMen_eq (h0 : 0 ≤ ns.index) (h1 : ns.index < 9) :
    Gen.FnS.calendar_NineStar_GetLuckInQiMen ns = .ok (Model.strGetD calendar.«LUCK_QI_MEN» ns.index) :=
  sidx_eq_strGetD _ _ h0 h1
theorem nineStarGetNameInTaiYi_eq (h0 : 0 ≤ ns.index) (h1 : ns.index < 9) :
    Gen.FnS.calendar_NineStar_GetNameInTaiYi ns = .ok (Model.strGetD calendar.«NAME_TAI_YI» ns.index) :=
  sidx_eq_strGetD _ _ h0 h1
theorem nineStarGetTypeInTaiYi_eq (h0 : 0 ≤ ns.index) (h1 : ns.index < 9) :
    Gen.FnS.calendar_NineStar_GetTypeInTaiYi ns = .ok (Model.strGetD calendar.«TYPE_TAI_YI» ns.index) :=
  sidx_eq_strGetD _ _ h0 h1
theorem nineStarGetSongInTaiYi_eq (h0 : 0 ≤ ns.index) (h1 : ns.index < 9) :
    Gen.FnS.calendar_NineStar_GetSongInTaiYi ns = .ok (Model.strGetD calendar.«SONG_TAI_YI» ns.index) :=
  sidx_eq_strGetD _ _ h0 h1

/- outside 0..8 every table accessor panics (Go: index out of range) -/
theorem nineStarGetNumber_panic (h : ns.index < 0 ∨ 9 ≤ ns.index) :
    Gen.FnS.calendar_NineStar_GetNumber ns = .error .panic :=
  sidx_panic _ _ h
theorem nineStarGetColor_panic (h : ns.index < 0 ∨ 9 ≤ ns.index) :
    Gen.FnS.calendar_NineStar_GetColor ns = .error .panic :=
  sidx_panic _ _ h
theorem nineStarGetWuXing_panic (h : ns.index < 0 ∨ 9 ≤ ns.index) :
    Gen.FnS.calendar_NineStar_GetWuXing ns = .error .panic :=
  sidx_panic _ _ h
theorem nineStarGetPosition_panic (h : ns.index < 0 ∨ 9 ≤ ns.index) :
    Gen.FnS.calendar_NineStar_GetPosition ns = .error .panic :=
  sidx_panic _ _ h
theorem nineStarGetPositionDesc_panic (h : ns.index < 0 ∨ 9 ≤ ns.index) :
    Gen.FnS.calendar_NineStar_GetPositionDesc ns = .error .panic :=
  bind_panic (nineStarGetPosition_panic ns h) _
theorem nineStarGetNameInXuanKong_panic (h : ns.index < 0 ∨ 9 ≤ ns.index) :
    Gen.FnS.calendar_NineStar_GetNameInXuanKong ns = .error .panic :=
  sidx_panic _ _ h
theorem nineStarGetLuckInXuanKong_panic (h : ns.index < 0 ∨ 9 ≤ ns.index) :
    Gen.FnS.calendar_NineStar_GetLuckInXuanKong ns = .error .panic :=
  sidx_panic _ _ h
theorem nineStarGetNameInBeiDou_panic (h : ns.index < 0 ∨ 9 ≤ ns.index) :
    Gen.FnS.calendar_NineStar_GetNameInBeiDou ns = .error .panic :=
  sidx_panic _ _ h
theorem nineStarGetNameInQiMen_panic (h : ns.index < 0 ∨ 9 ≤ ns.index) :
    Gen.FnS.calendar_NineStar_GetNameInQiMen ns = .error .panic :=
  sidx_panic _ _ h
theorem nineStarGetBaMenInQiMen_panic (h : ns.index < 0 ∨ 9 ≤ ns.index) :
    Gen.FnS.calendar_NineStar_GetBaMenInQiMen ns = .error .panic :=
  sidx_panic _ _ h
theorem nineStarGetYinYangInQiMen_panic (h : ns.index < 0 ∨ 9 ≤ ns.index) :
    Gen.FnS.calendar_NineStar_GetYinYangInQiMen ns = .error .panic :=
  sidx_panic _ _ h
theorem nineStarGetLuckInQiMen_panic (h : ns.index < 0 ∨ 9 ≤ ns.index) :
    Gen.FnS.calendar_NineStar_GetLuckInQiMen ns = .error .panic :=
  sidx_panic _ _ h
theorem nineStarGetNameInTaiYi_panic (h : ns.index < 0 ∨ 9 ≤ ns.index) :
    Gen.FnS.calendar_NineStar_GetNameInTaiYi ns = .error .panic :=
  sidx_panic _ _ h
theorem nineStarGetTypeInTaiYi_panic (h : ns.index < 0 ∨ 9 ≤ ns.index) :
    Gen.FnS.calendar_NineStar_GetTypeInTaiYi ns = .error .panic :=
  sidx_panic _ _ h
theorem nineStarGetSongInTaiYi_panic (h : ns.index < 0 ∨ 9 ≤ ns.index) :
    Gen.FnS.calendar_NineStar_GetSongInTaiYi ns = .error .panic :=
  sidx_panic _ _ h
end

/-- "all naming systems index the same star": on 0..8 every accessor succeeds -/
theorem nineStar_accessors_total (ns : Gen.FnS.NineStar) (h0 : 0 ≤ ns.index) (h1 : ns.index < 9) :
    (Gen.FnS.calendar_NineStar_GetNumber ns).isOk ∧ (Gen.FnS.calendar_NineStar_GetColor ns).isOk ∧
    (Gen.FnS.calendar_NineStar_GetWuXing ns).isOk ∧ (Gen.FnS.calendar_NineStar_GetPosition ns).isOk ∧
    (Gen.FnS.calendar_NineStar_GetPositionDesc ns).isOk ∧ (Gen.FnS.calendar_NineStar_GetNameInXuanKong ns).isOk ∧
    (Gen.FnS.calendar_NineStar_GetLuckInXuanKong ns).isOk ∧ (Gen.FnS.calendar_NineStar_GetNameInBeiDou ns).isOk ∧
    (Gen.FnS.calendar_NineStar_GetNameInQiMen ns).isOk ∧ (Gen.FnS.calendar_NineStar_GetBaMenInQiMen ns).isOk ∧
    (Gen.FnS.calendar_NineStar_GetYinYangInQiMen ns).isOk ∧ (Gen.FnS.calendar_NineStar_GetLuckInQiMen ns).isOk ∧
    (Gen.FnS.calendar_NineStar_GetNameInTaiYi ns).isOk ∧ (Gen.FnS.calendar_NineStar_GetTypeInTaiYi ns).isOk ∧
    (Gen.FnS.calendar_NineStar_GetSongInTaiYi ns).isOk ∧ (Gen.FnS.calendar_NineStar_GetIndex ns).isOk := by
  rw [nineStarGetNumber_eq ns h0 h1, nineStarGetColor_eq ns h0 h1, nineStarGetWuXing_eq ns h0 h1,
    nineStarGetPosition_eq ns h0 h1, nineStarGetPositionDesc_eq ns h0 h1, nineStarGetNameInXuanKong_eq ns h0 h1,
    nineStarGetLuckInXuanKong_eq ns h0 h1, nineStarGetNameInBeiDou_eq ns h0 h1, nineStarGetNameInQiMen_eq ns h0 h1,
    nineStarGetBaMenInQiMen_eq ns h0 h1, nineStarGetYinYangInQiMen_eq ns h0 h1, nineStarGetLuckInQiMen_eq ns h0 h1,
    nineStarGetNameInTaiYi_eq ns h0 h1, nineStarGetTypeInTaiYi_eq ns h0 h1, nineStarGetSongInTaiYi_eq ns h0 h1,
    nineStarGetIndex_eq]
  simp [Except.isOk, Except.toBool]

/-- `NineStar.String()` = number ++ colour ++ element ++ Big-Dipper name -/
theorem nineStarString_eq (ns : Gen.FnS.NineStar) (h0 : 0 ≤ ns.index) (h1 : ns.index < 9) :
    Gen.FnS.calendar_NineStar_String ns
      = .ok (Model.strGetD calendar.«NUMBER» ns.index ++ Model.strGetD calendar.«COLOR» ns.index
              ++ Model.strGetD calendar.«WU_XING» ns.index ++ Model.strGetD calendar.«NAME_BEI_DOU» ns.index) := by
  unfold Gen.FnS.calendar_NineStar_String
  rw [nineStarGetNumber_eq ns h0 h1, nineStarGetColor_eq ns h0 h1, nineStarGetWuXing_eq ns h0 h1,
    nineStarGetNameInBeiDou_eq ns h0 h1]
  rfl

theorem nineStarString_panic (ns : Gen.FnS.NineStar) (h : ns.index < 0 ∨ 9 ≤ ns.index) :
    Gen.FnS.calendar_NineStar_String ns = .error .panic :=
  bind_panic (nineStarGetNumber_panic ns h) _

/-- the text `ToFullString` builds from the parts read at index `i` (the eight-gate part is omitted when the
gate name is empty — the centre star, index 4) -/
def s5_fullText (i : Int) : String :=
  Model.strGetD calendar.«NUMBER» i ++ Model.strGetD calendar.«COLOR» i ++ Model.strGetD calendar.«WU_XING» i
    ++ " " ++ Model.strGetD calendar.«POSITION» i
    ++ "(" ++ Model.lookupStr LunarUtil.«POSITION_DESC» (Model.strGetD calendar.«POSITION» i) ++ ") "
    ++ Model.strGetD calendar.«NAME_BEI_DOU» i
    ++ " 玄空[" ++ Model.strGetD calendar.«NAME_XUAN_KONG» i ++ " " ++ Model.strGetD calendar.«LUCK_XUAN_KONG» i
    ++ "] 奇门[" ++ Model.strGetD calendar.«NAME_QI_MEN» i ++ " " ++ Model.strGetD calendar.«LUCK_QI_MEN» i
    ++ (if Gen.FnS.strLen (Model.strGetD calendar.«BA_MEN_QI_MEN» i) > 0
          then " " ++ Model.strGetD calendar.«BA_MEN_QI_MEN» i ++ "门" else "")
    ++ " " ++ Model.strGetD calendar.«YIN_YANG_QI_MEN» i
    ++ "] 太乙[" ++ Model.strGetD calendar.«NAME_TAI_YI» i ++ " " ++ Model.strGetD calendar.«TYPE_TAI_YI» i ++ "]"

theorem nineStarToFullString_eq (ns : Gen.FnS.NineStar) (h0 : 0 ≤ ns.index) (h1 : ns.index < 9) :
    Gen.FnS.calendar_NineStar_ToFullString ns = .ok (s5_fullText ns.index) := by
  unfold Gen.FnS.calendar_NineStar_ToFullString
  rw [nineStarGetNumber_eq ns h0 h1, nineStarGetColor_eq ns h0 h1, nineStarGetWuXing_eq ns h0 h1,
    nineStarGetPosition_eq ns h0 h1, nineStarGetPositionDesc_eq ns h0 h1, nineStarGetNameInXuanKong_eq ns h0 h1,
    nineStarGetLuckInXuanKong_eq ns h0 h1, nineStarGetNameInBeiDou_eq ns h0 h1, nineStarGetNameInQiMen_eq ns h0 h1,
    nineStarGetBaMenInQiMen_eq ns h0 h1, nineStarGetYinYangInQiMen_eq ns h0 h1, nineStarGetLuckInQiMen_eq ns h0 h1,
    nineStarGetNameInTaiYi_eq ns h0 h1, nineStarGetTypeInTaiYi_eq ns h0 h1]
  simp only [sb_bind_ok]
  unfold s5_fullText
  by_cases hg : Gen.FnS.strLen (Model.strGetD calendar.«BA_MEN_QI_MEN» ns.index) > 0
  · rw [if_pos (decide_eq_true hg), if_pos hg]
    simp only [String.append_assoc]; rfl
  · rw [if_neg (by simpa using hg), if_neg hg]
    simp only [String.append_assoc, String.empty_append]; rfl

theorem nineStarToFullString_panic (ns : Gen.FnS.NineStar) (h : ns.index < 0 ∨ 9 ≤ ns.index) :
    Gen.FnS.calendar_NineStar_ToFullString ns = .error .panic :=
  bind_panic (nineStarGetNumber_panic ns h) _

/-- the eight-gate name is empty exactly for the centre star (index 4): only there `ToFullString` omits "…门" -/
theorem nineStar_baMen_nonempty_iff (i : Int) (h0 : 0 ≤ i) (h1 : i < 9) :
    Gen.FnS.strLen (Model.strGetD calendar.«BA_MEN_QI_MEN» i) > 0 ↔ i ≠ 4 :=
  forall_range (fun i => Gen.FnS.strLen (Model.strGetD calendar.«BA_MEN_QI_MEN» i) > 0 ↔ i ≠ 4) 0 9 (by decide)
    i h0 h1

end FnSEq
