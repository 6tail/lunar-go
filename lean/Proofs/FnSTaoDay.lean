/-
Proofs.FnSTaoDay — the Tao day predicates of the string-mode generated code whose body is one atom
(`t.isDayIn(…)`, `t.lunar.GetJieQi()`), with the atom arbitrary and with the atom bound to the model's value.
-/
import Proofs.FnSTaoFoto

namespace FnSEq
open Gen.Fn (Err)
open Gen.Tables

/-- atom `t.isDayIn(TaoUtil.SAN_HUI)`: the function only forwards it -/
theorem taoIsDaySanHui_eq (a1 : Bool) (t : Gen.FnS.Tao) : Gen.FnS.calendar_Tao_IsDaySanHui a1 t = .ok a1 := rfl
theorem taoIsDaySanYuan_eq (a1 : Bool) (t : Gen.FnS.Tao) : Gen.FnS.calendar_Tao_IsDaySanYuan a1 t = .ok a1 := rfl
theorem taoIsDayWuLa_eq (a1 : Bool) (t : Gen.FnS.Tao) : Gen.FnS.calendar_Tao_IsDayWuLa a1 t = .ok a1 := rfl

/-- with the atoms bound to the model's `isDayIn` -/
theorem taoIsDaySanHui_eq_model (t : Gen.FnS.Tao) (terms : List Model.Solar) :
    Gen.FnS.calendar_Tao_IsDaySanHui (Model.taoIsDayIn (lunarToM t.lunar terms) TaoUtil.«SAN_HUI») t
      = .ok (Model.taoSanHui (lunarToM t.lunar terms)) := rfl
theorem taoIsDaySanYuan_eq_model (t : Gen.FnS.Tao) (terms : List Model.Solar) :
    Gen.FnS.calendar_Tao_IsDaySanYuan (Model.taoIsDayIn (lunarToM t.lunar terms) TaoUtil.«SAN_YUAN») t
      = .ok (Model.taoSanYuan (lunarToM t.lunar terms)) := rfl
theorem taoIsDayWuLa_eq_model (t : Gen.FnS.Tao) (terms : List Model.Solar) :
    Gen.FnS.calendar_Tao_IsDayWuLa (Model.taoIsDayIn (lunarToM t.lunar terms) TaoUtil.«WU_LA») t
      = .ok (Model.taoWuLa (lunarToM t.lunar terms)) := rfl

/-- `IsDayBaJie` for every value of the atom (`t.lunar.GetJieQi()`): membership of the key in `BA_JIE` -/
theorem taoIsDayBaJie_shape (a1 : String) (t : Gen.FnS.Tao) :
    Gen.FnS.calendar_Tao_IsDayBaJie a1 t = .ok (Gen.FnS.mhas TaoUtil.«BA_JIE» a1) :=
  ret_bool _

theorem taoIsDayBaJie_lookup (a1 : String) (t : Gen.FnS.Tao) :
    Gen.FnS.calendar_Tao_IsDayBaJie a1 t = .ok (Model.lookupS TaoUtil.«BA_JIE» a1).isSome := by
  rw [taoIsDayBaJie_shape, mhas_eq]

/-- MAIN: with the atom bound to the model's `GetJieQi` string -/
theorem taoIsDayBaJie_eq (a1 : String) (t : Gen.FnS.Tao) (terms : List Model.Solar)
    (ha1 : a1 = (lunarToM t.lunar terms).jieQi) :
    Gen.FnS.calendar_Tao_IsDayBaJie a1 t = .ok (Model.taoBaJie (lunarToM t.lunar terms)) := by
  subst ha1; rw [taoIsDayBaJie_lookup]; rfl

end FnSEq
