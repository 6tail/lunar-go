/-
Proofs.WeekSpec — weeks, months, seasons, half-years and years of the civil calendar (C15).
The week statements rest on one notion: `weekNo start J`, the number of the week (beginning on weekday `start`)
that day number `J` lies in. `GetIndex`, `GetIndexInYear` and `GetWeeksOfMonth` are differences of two week
numbers plus one, `GetFirstDay` is the first day of the week with that number, and the month-separated walk of
`SolarWeek.Next` moves through the cells (month, week number).
-/
import Model.Week
import Proofs.CivilArith
-- some statements keep a hypothesis their proof does not need (noted at each)
set_option linter.unusedVariables false
namespace Model

/-- week number of day number `J`; `week` is `(J + 7000001) % 7` -/
def weekNo (start J : Int) : Int := (J + 7000001 - start) / 7

theorem weekNo_eq_iff (start J J' : Int) :
    weekNo start J' = weekNo start J ↔
      7 * weekNo start J - (7000001 - start) ≤ J' ∧ J' ≤ 7 * weekNo start J - (7000001 - start) + 6 := by
  unfold weekNo; omega

theorem weekNo_spec (start J : Int) :
    7 * weekNo start J - (7000001 - start) ≤ J ∧ J ≤ 7 * weekNo start J - (7000001 - start) + 6 :=
  (weekNo_eq_iff start J J).1 rfl

theorem weekNo_mono (start : Int) {J J' : Int} (h : J ≤ J') : weekNo start J ≤ weekNo start J' := by
  unfold weekNo; omega

theorem weekNo_add7 (start J n : Int) : weekNo start (J + 7 * n) = weekNo start J + n := by
  unfold weekNo; omega

theorem le_of_weekNo_eq (start : Int) {J J' : Int} (h : weekNo start J = weekNo start J') : J' ≤ J + 6 := by
  unfold weekNo at h; omega

theorem weekNo_succ (start J : Int) (hs : 0 ≤ start ∧ start ≤ 6) :
    weekNo start (J + 1) = weekNo start J + if (J + 1 + 7000001) % 7 = start then 1 else 0 := by
  have := weekNo_spec start J
  have := weekNo_spec start (J + 1)
  split <;> omega

theorem wrap7_bounds (x : Int) (h1 : -6 ≤ x) (h2 : x ≤ 6) : 0 ≤ wrap7 x ∧ wrap7 x ≤ 6 ∧ wrap7 x = x % 7 := by
  unfold wrap7
  split <;> omega

theorem wrap7_week (start J : Int) (hs : 0 ≤ start ∧ start ≤ 6) :
    wrap7 ((J + 7000001) % 7 - start) = J - (7 * weekNo start J - (7000001 - start)) := by
  have := wrap7_bounds ((J + 7000001) % 7 - start) (by omega) (by omega)
  unfold weekNo
  omega

/-- the library's `ceil((n + offset) / 7)`, for the `n`-th day of a span that begins on day number `A` -/
theorem ceil7_eq (start A n : Int) (hs : 0 ≤ start ∧ start ≤ 6) :
    (n + wrap7 ((A + 7000001) % 7 - start) + 6) / 7 = weekNo start (A + n - 1) - weekNo start A + 1 := by
  rw [wrap7_week start A hs]
  have := weekNo_spec start (A + n - 1)
  omega

theorem newSolarYmd_some (y m d : Int) (hv : validYmd y m d = true) :
    newSolarYmd y m d = some ⟨y, m, d, 0, 0, 0⟩ ∧ (Solar.mk y m d 0 0 0).valid = true :=
  newSolar_some y m d 0 0 0 hv (by decide)

theorem valid_first (y m : Int) (hm : 1 ≤ m ∧ m ≤ 12) : validYmd y m 1 = true := by
  have hb := daysOfMonth_bounds y m hm.1 hm.2
  rw [validYmd_iff_step]
  refine ⟨hm.1, hm.2, by omega, by omega, ?_⟩
  split <;> omega

theorem valid_month (x : Solar) (hx : x.valid = true) :
    1 ≤ x.month ∧ x.month ≤ 12 ∧ jdn x.year x.month 1 ≤ x.jdn ∧
      x.jdn < jdn x.year x.month 1 + daysOfMonth x.year x.month :=
  have h := (valid_parts x hx).1
  ⟨((validYmd_iff_step _ _ _).1 h).1, ((validYmd_iff_step _ _ _).1 h).2.1, jdn_in_month _ _ _ h⟩

theorem month_of_jdn (x : Solar) (hx : x.valid = true) (y m : Int) (hm : 1 ≤ m ∧ m ≤ 12)
    (h1 : jdn y m 1 ≤ x.jdn) (h2 : x.jdn < jdn y m 1 + daysOfMonth y m) : x.year = y ∧ x.month = m := by
  obtain ⟨ha, hb⟩ := jdn_uncomp y m (x.jdn - jdn y m 1 + 1) hm.1 hm.2 (by omega) (by omega)
  have := jdn_inj_all _ _ _ _ _ _ (valid_parts x hx).1 ha (by rw [hb, lin, ← Solar.jdn]; omega)
  exact ⟨this.1, this.2.1⟩

theorem nextYm_unique (y m n y' m' : Int) (hm : 1 ≤ m ∧ m ≤ 12) (hm' : 1 ≤ m' ∧ m' ≤ 12)
    (h : y' * 12 + (m' - 1) = y * 12 + (m - 1) + n) : nextYm y m n = (y', m') := by
  obtain ⟨a, b, c⟩ := nextYm_spec y m n hm.1 hm.2
  apply Prod.ext <;> (simp only; omega)

theorem nextYm_total (y m n : Int) (hm : 1 ≤ m ∧ m ≤ 12) :
    (nextYm y m n).1 * 12 + ((nextYm y m n).2 - 1) = y * 12 + (m - 1) + n ∧ 1 ≤ (nextYm y m n).2 ∧ (nextYm y m n).2 ≤ 12 := by
  obtain ⟨a, b, c⟩ := nextYm_spec y m n hm.1 hm.2
  exact ⟨c, a, b⟩

/-- month stepping is additive, so n forward then n back returns to the start; seasons and half-years move by 3n / 6n months -/
theorem nextYm_add (y m a b : Int) (hm : 1 ≤ m ∧ m ≤ 12) : nextYm (nextYm y m a).1 (nextYm y m a).2 b = nextYm y m (a + b) := by
  obtain ⟨a1, a2, a3⟩ := nextYm_spec y m a hm.1 hm.2
  obtain ⟨b1, b2, b3⟩ := nextYm_spec y m (a + b) hm.1 hm.2
  exact nextYm_unique _ _ b (nextYm y m (a + b)).1 (nextYm y m (a + b)).2 ⟨a1, a2⟩ ⟨b1, b2⟩ (by omega)

theorem nextYm_inv (y m n : Int) (hm : 1 ≤ m ∧ m ≤ 12) : nextYm (nextYm y m n).1 (nextYm y m n).2 (-n) = (y, m) := by
  obtain ⟨a1, a2, a3⟩ := nextYm_spec y m n hm.1 hm.2
  exact nextYm_unique _ _ _ _ _ ⟨a1, a2⟩ hm (by omega)

theorem seasonNext_inv (y m n : Int) (hm : 1 ≤ m ∧ m ≤ 12) : seasonNext (seasonNext y m n).1 (seasonNext y m n).2 (-n) = (y, m) := by
  unfold seasonNext
  rw [show 3 * -n = -(3 * n) by omega]
  exact nextYm_inv y m (3 * n) hm

theorem halfYearNext_inv (y m n : Int) (hm : 1 ≤ m ∧ m ≤ 12) : halfYearNext (halfYearNext y m n).1 (halfYearNext y m n).2 (-n) = (y, m) := by
  unfold halfYearNext
  rw [show 6 * -n = -(6 * n) by omega]
  exact nextYm_inv y m (6 * n) hm

theorem nextYm_one (y m : Int) (hm : 1 ≤ m ∧ m ≤ 12) :
    nextYm y m 1 = if m = 12 then (y + 1, 1) else (y, m + 1) := by
  split
  · exact nextYm_unique y m 1 _ _ hm (by omega) (by omega)
  · exact nextYm_unique y m 1 _ _ hm (by omega) (by omega)

theorem jdn_nextYm (y m : Int) (hm : 1 ≤ m ∧ m ≤ 12) :
    jdn (nextYm y m 1).1 (nextYm y m 1).2 1 = jdn y m 1 + daysOfMonth y m := by
  rw [nextYm_one y m hm]
  split
  · subst m; exact jdn_year_succ_all y
  · exact jdn_month_succ_all y m hm.1 (by omega)

theorem firstDay_core (w : SolarWeek) (hv : validYmd w.year w.month w.day = true) (hs : 0 ≤ w.start ∧ w.start ≤ 6) :
    ∃ f, w.firstDay = some f ∧ f.valid = true ∧
      f.jdn = 7 * weekNo w.start (jdn w.year w.month w.day) - (7000001 - w.start) ∧
      f.hour = 0 ∧ f.minute = 0 ∧ f.second = 0 := by
  obtain ⟨e, hcv⟩ := newSolarYmd_some _ _ _ hv
  obtain ⟨f, ef, hfv, hj, hms⟩ := nextDay_spec_strong ⟨w.year, w.month, w.day, 0, 0, 0⟩
    (-(wrap7 (week w.year w.month w.day - w.start))) hcv
  refine ⟨f, by simp only [SolarWeek.firstDay, e]; exact ef, hfv, ?_, hms⟩
  rw [hj, week, wrap7_week _ _ hs]
  simp only [Solar.jdn]
  omega

/-- the week's first day is the unique day in (d-7, d] whose weekday is `start` -/
theorem firstDay_spec (w : SolarWeek) (hv : validYmd w.year w.month w.day = true) (hs : 0 ≤ w.start ∧ w.start ≤ 6) :
    ∃ f, w.firstDay = some f ∧ f.valid = true ∧ f.week = w.start ∧
      0 ≤ jdn w.year w.month w.day - f.jdn ∧ jdn w.year w.month w.day - f.jdn ≤ 6 := by
  obtain ⟨f, e, hfv, hj, _⟩ := firstDay_core w hv hs
  have := weekNo_spec w.start (jdn w.year w.month w.day)
  refine ⟨f, e, hfv, ?_, by omega, by omega⟩
  rw [Solar.week, week, ← Solar.jdn, hj]
  omega

theorem firstDay_week (c : Solar) (start : Int) (hv : c.valid = true) (hs : 0 ≤ start ∧ start ≤ 6) :
    ∃ fd, (weekOf c start).firstDay = some fd ∧ fd.valid = true ∧
      ∀ J, weekNo start J = weekNo start c.jdn ↔ fd.jdn ≤ J ∧ J ≤ fd.jdn + 6 := by
  obtain ⟨fd, efd, hfdv, hfdj, -⟩ := firstDay_core (weekOf c start) (valid_parts c hv).1 hs
  exact ⟨fd, efd, hfdv, fun J => hfdj ▸ weekNo_eq_iff start c.jdn J⟩

theorem daysFrom_spec (f : Solar) (hv : f.valid = true) (k : Nat) : ∀ (i : Int),
    ∃ l, (daysFrom f k i).mapM id = some l ∧ l.length = k ∧
      ∀ j : Nat, j < k → l[j]? = f.nextDay (i + j) := by
  induction k with
  | zero => exact fun i => ⟨[], rfl, rfl, fun j hj => by omega⟩
  | succ k ih =>
    intro i
    obtain ⟨l, hl, hlen, hget⟩ := ih (i + 1)
    obtain ⟨r, er, -⟩ := nextDay_spec_strong f i hv
    refine ⟨r :: l, by simp [daysFrom, List.mapM_cons, er, hl], by simp [hlen], fun j hj' => ?_⟩
    cases j with
    | zero => simpa using er.symm
    | succ j =>
      rw [List.getElem?_cons_succ, hget j (by omega)]
      congr 1; omega

theorem daysFrom_cons (f : Solar) (hv : f.valid = true) (k : Nat) :
    some f :: daysFrom f k 1 = daysFrom f (k + 1) 0 := by
  rw [daysFrom, nextDay_eq_some f f 0 hv hv (by omega) rfl rfl rfl, Int.zero_add]

/-- a week is seven consecutive days starting at its first day, and contains its own date -/
theorem days_spec (w : SolarWeek) (hv : validYmd w.year w.month w.day = true) (hs : 0 ≤ w.start ∧ w.start ≤ 6) :
    ∃ f l, w.firstDay = some f ∧ w.days = some l ∧ l.length = 7 ∧
      (∀ i : Nat, i < 7 → ∃ s, l[i]? = some s ∧ s.valid = true ∧ s.jdn = f.jdn + i) ∧
      (∃ s ∈ l, s.year = w.year ∧ s.month = w.month ∧ s.day = w.day) := by
  obtain ⟨f, e, hfv, hj, h1, h2, h3⟩ := firstDay_core w hv hs
  obtain ⟨l, hl, hlen, hget⟩ := daysFrom_spec f hfv 7 0
  refine ⟨f, l, e, by simp only [SolarWeek.days, e, daysFrom_cons f hfv]; exact hl, hlen, fun i hi => ?_, ?_⟩
  · obtain ⟨s, es, b1, b2, -⟩ := nextDay_spec_strong f (0 + i) hfv
    exact ⟨s, (hget i hi).trans es, b1, by omega⟩
  · -- the week's own date is the day at offset `jdn − f.jdn` ∈ [0, 6]
    have := weekNo_spec w.start (jdn w.year w.month w.day)
    have es := (hget (jdn w.year w.month w.day - f.jdn).toNat (by omega)).trans
      (nextDay_eq_some f ⟨w.year, w.month, w.day, 0, 0, 0⟩ _ hfv (newSolarYmd_some _ _ _ hv).2
        (by rw [hj]; simp only [Solar.jdn]; omega) h1.symm h2.symm h3.symm)
    exact ⟨_, List.mem_of_getElem? es, rfl, rfl, rfl⟩

/-- the days of the week that lie in its month -/
theorem daysInMonth_spec (w : SolarWeek) (l : List Solar) (h : w.days = some l) :
    w.daysInMonth = some (l.filter (fun d => d.month == w.month)) := by
  unfold SolarWeek.daysInMonth; rw [h]; rfl

theorem index_comp (y m d start : Int) (hs : 0 ≤ start ∧ start ≤ 6) :
    (SolarWeek.mk y m d start).index =
      weekNo start (jdn y m 1 + comp y m d - 1) - weekNo start (jdn y m 1) + 1 :=
  ceil7_eq start (jdn y m 1) (comp y m d) hs

/-- with October 1582 compressed (the `fix:` of `GetIndex`) this holds for every valid date -/
theorem index_eq (y m d start : Int) (hv : validYmd y m d = true) (hs : 0 ≤ start ∧ start ≤ 6) :
    (SolarWeek.mk y m d start).index = weekNo start (jdn y m d) - weekNo start (jdn y m 1) + 1 := by
  rw [index_comp y m d start hs, (jdn_comp y m d hv).1, lin, Int.add_sub_assoc]

theorem index_first (y m start : Int) (hs : 0 ≤ start ∧ start ≤ 6) : (SolarWeek.mk y m 1 start).index = 1 := by
  rw [index_comp y m 1 start hs, comp, if_neg (by omega), Int.add_sub_cancel]
  omega

theorem index_step (y m d d' start : Int) (hv : validYmd y m d = true) (hv' : validYmd y m d' = true)
    (hs : 0 ≤ start ∧ start ≤ 6) (hj : jdn y m d' = jdn y m d + 1) :
    (SolarWeek.mk y m d' start).index = (SolarWeek.mk y m d start).index + (if week y m d' = start then 1 else 0) := by
  rw [index_eq y m d' start hv' hs, index_eq y m d start hv hs, week, hj, weekNo_succ _ _ hs]
  omega

theorem index_succ (y m d start : Int) (hv : validYmd y m d = true) (hv' : validYmd y m (d + 1) = true) (hn : ¬ (y = 1582 ∧ m = 10))
    (hs : 0 ≤ start ∧ start ≤ 6) :
    (SolarWeek.mk y m (d + 1) start).index = (SolarWeek.mk y m d start).index + (if week y m (d + 1) = start then 1 else 0) := by
  have hc (d) : comp y m d = d := if_neg fun h => hn ⟨h.1, h.2.1⟩
  refine index_step y m d (d + 1) start hv hv' hs ?_
  rw [(jdn_comp y m d hv).1, (jdn_comp y m _ hv').1, hc, hc, lin, lin]
  omega

/-- October 1582 (after the `fix:` of `GetIndex`): along the 21 existing days 1..4, 15..31 the index steps by one
exactly when the new day's weekday is `start` (and `index_first` gives index 1 on the 1st) -/
theorem index_succ_1582 (d d' start : Int) (hv : validYmd 1582 10 d = true) (hv' : validYmd 1582 10 d' = true)
    (hd : d' = d + 1 ∨ (d = 4 ∧ d' = 15)) (hs : 0 ≤ start ∧ start ≤ 6) :
    (SolarWeek.mk 1582 10 d' start).index = (SolarWeek.mk 1582 10 d start).index + (if week 1582 10 d' = start then 1 else 0) := by
  refine index_step 1582 10 d d' start hv hv' hs ?_
  obtain ⟨_, _, _, _, a⟩ := (validYmd_iff_step 1582 10 d).1 hv
  obtain ⟨_, _, _, _, b⟩ := (validYmd_iff_step 1582 10 d').1 hv'
  rw [if_pos ⟨rfl, rfl⟩] at a b
  rw [(jdn_comp _ _ d hv).1, (jdn_comp _ _ d' hv').1, lin, lin, comp, comp]
  split <;> split <;> omega

theorem indexInYear_eq (y m d start : Int) (hv : validYmd y m d = true) (hs : 0 ≤ start ∧ start ≤ 6) :
    (SolarWeek.mk y m d start).indexInYear = some (weekNo start (jdn y m d) - weekNo start (jdn y 1 1) + 1) := by
  simp only [SolarWeek.indexInYear, daysInYear_eq y m d hv, week, ceil7_eq _ _ _ hs]
  rw [show jdn y 1 1 + (jdn y m d - jdn y 1 1 + 1) - 1 = jdn y m d by omega]

theorem indexInYear_first (y start : Int) (hs : 0 ≤ start ∧ start ≤ 6) : (SolarWeek.mk y 1 1 start).indexInYear = some 1 := by
  rw [indexInYear_eq y 1 1 start (valid_first y 1 (by omega)) hs]
  congr 1; omega

theorem indexInYear_step (s r : Solar) (start : Int) (hv : s.valid = true) (h1 : s.nextDay 1 = some r) (hy : r.year = s.year)
    (hs : 0 ≤ start ∧ start ≤ 6) :
    ∃ a b, (SolarWeek.mk s.year s.month s.day start).indexInYear = some a ∧ (SolarWeek.mk r.year r.month r.day start).indexInYear = some b ∧
      b = a + (if r.week = start then 1 else 0) := by
  obtain ⟨r', e, hrv, hj, _⟩ := nextDay_spec_strong s 1 hv
  cases h1.symm.trans e
  refine ⟨_, _, indexInYear_eq _ _ _ start (valid_parts s hv).1 hs, indexInYear_eq _ _ _ start (valid_parts r hrv).1 hs, ?_⟩
  simp only [Solar.jdn] at hj
  rw [Solar.week, week, hj, weekNo_succ _ _ hs, hy]
  omega

/-- `hn` is not needed (`indexInYear_step`) -/
theorem indexInYear_succ (s r : Solar) (start : Int) (hv : s.valid = true) (h1 : s.nextDay 1 = some r) (hy : r.year = s.year)
    (hn : s.year ≠ 1582) (hs : 0 ≤ start ∧ start ≤ 6) :
    ∃ a b, (SolarWeek.mk s.year s.month s.day start).indexInYear = some a ∧ (SolarWeek.mk r.year r.month r.day start).indexInYear = some b ∧
      b = a + (if r.week = start then 1 else 0) :=
  indexInYear_step s r start hv h1 hy hs

theorem weeksOfMonth_weekNo (y m start : Int) (hs : 0 ≤ start ∧ start ≤ 6) :
    weeksOfMonth y m start =
      weekNo start (jdn y m 1 + daysOfMonth y m - 1) - weekNo start (jdn y m 1) + 1 :=
  ceil7_eq start (jdn y m 1) (daysOfMonth y m) hs

theorem weeksOfMonth_eq (y m start : Int) (hs : 0 ≤ start ∧ start ≤ 6) :
    weeksOfMonth y m start = (daysOfMonth y m + (jdn y m 1 + 7000001 - start) % 7 + 6) / 7 := by
  rw [weeksOfMonth, week, wrap7_week _ _ hs, weekNo]
  omega

/- For October 1582 the last day is the 31st, not day number `daysOfMonth 1582 10 = 21`:
`weeksOfMonth 1582 10 0 = 4` but `(SolarWeek.mk 1582 10 21 0).index = 2`. Hence two statements. -/
theorem weeksOfMonth_eq_last_index_partial (y m start : Int) (hn : ¬ (y = 1582 ∧ m = 10)) :
    weeksOfMonth y m start = (SolarWeek.mk y m (daysOfMonth y m) start).index := by
  have hc : ¬ (y = 1582 ∧ m = 10 ∧ daysOfMonth y m > 4) := fun h => hn ⟨h.1, h.2.1⟩
  unfold weeksOfMonth SolarWeek.index
  simp only [hc, if_false]

theorem weeksOfMonth_eq_last_index_1582 (start : Int) :
    weeksOfMonth 1582 10 start = (SolarWeek.mk 1582 10 31 start).index := by
  have e : daysOfMonth 1582 10 = 21 := by decide
  unfold weeksOfMonth SolarWeek.index
  simp only [e]
  rfl

/-- a month lists each of its days once, in order (21 days for October 1582) -/
theorem monthDays_spec (y m : Int) (hm : 1 ≤ m ∧ m ≤ 12) :
    ∃ l, monthDays y m = some l ∧ (l.length : Int) = daysOfMonth y m ∧
      (∀ i : Nat, i < l.length → ∃ s, l[i]? = some s ∧ s.valid = true ∧ s.year = y ∧ s.month = m ∧ s.jdn = jdn y m 1 + i) := by
  have hb := daysOfMonth_bounds y m hm.1 hm.2
  obtain ⟨e, hfv⟩ := newSolarYmd_some y m 1 (valid_first y m hm)
  obtain ⟨l, hl, hlen, hget⟩ := daysFrom_spec ⟨y, m, 1, 0, 0, 0⟩ hfv ((daysOfMonth y m - 1).toNat + 1) 0
  refine ⟨l, by simp only [monthDays, e, daysFrom_cons _ hfv]; exact hl, by omega, fun i hi => ?_⟩
  obtain ⟨s, es, b1, b2, -⟩ := nextDay_spec_strong ⟨y, m, 1, 0, 0, 0⟩ (0 + i) hfv
  replace b2 : s.jdn = jdn y m 1 + i := by rw [b2]; simp only [Solar.jdn]; omega
  obtain ⟨c1, c2⟩ := month_of_jdn s b1 y m hm (by omega) (by omega)
  exact ⟨s, (hget i (by omega)).trans es, b1, c1, c2, b2⟩

theorem oct1582_21 : ∃ l, monthDays 1582 10 = some l ∧ l.length = 21 := by
  obtain ⟨l, h1, h2, _⟩ := monthDays_spec 1582 10 (by omega)
  have : daysOfMonth 1582 10 = 21 := by decide
  exact ⟨l, h1, by omega⟩

theorem range12 : List.range 12 = [0, 1, 2, 3, 4, 5, 6, 7, 8, 9, 10, 11] := by decide

theorem mem_monthBlock (y b : Int) (k : Nat) (p : Int × Int) :
    p ∈ (List.range k).map (fun (i : Nat) => (y, b + Int.ofNat i + 1)) ↔ p.1 = y ∧ b < p.2 ∧ p.2 ≤ b + k := by
  simp only [List.mem_map, List.mem_range, Int.ofNat_eq_natCast]
  constructor
  · rintro ⟨i, hi, rfl⟩
    exact ⟨rfl, by omega, by omega⟩
  · rintro ⟨rfl, h1, h2⟩
    exact ⟨(p.2 - b - 1).toNat, by omega, Prod.ext rfl (by simp only; omega)⟩

/-- a season lists three months, a half-year six, a year twelve; each month belongs to the unit -/
theorem seasonMonths_spec (y m : Int) (hm : 1 ≤ m ∧ m ≤ 12) :
    (seasonMonths y m).length = 3 ∧ (y, m) ∈ seasonMonths y m ∧ ∀ p ∈ seasonMonths y m, p.1 = y ∧ seasonIndex p.2 = seasonIndex m ∧ 1 ≤ p.2 ∧ p.2 ≤ 12 := by
  unfold seasonMonths
  simp only [mem_monthBlock, seasonIndex]
  exact ⟨by simp, ⟨trivial, by omega, by omega⟩, fun p ⟨h1, h2, h3⟩ => ⟨h1, by omega, by omega, by omega⟩⟩

theorem halfYearMonths_spec (y m : Int) (hm : 1 ≤ m ∧ m ≤ 12) :
    (halfYearMonths y m).length = 6 ∧ (y, m) ∈ halfYearMonths y m ∧ ∀ p ∈ halfYearMonths y m, p.1 = y ∧ halfYearIndex p.2 = halfYearIndex m ∧ 1 ≤ p.2 ∧ p.2 ≤ 12 := by
  unfold halfYearMonths
  simp only [mem_monthBlock, halfYearIndex]
  exact ⟨by simp, ⟨trivial, by omega, by omega⟩, fun p ⟨h1, h2, h3⟩ => ⟨h1, by omega, by omega, by omega⟩⟩

theorem yearMonths_spec (y : Int) : yearMonths y = (List.range 12).map (fun (i : Nat) => (y, (Int.ofNat i) + 1)) := by
  unfold yearMonths
  apply List.map_congr_left
  intro i hi
  have hi' : i < 12 := List.mem_range.1 hi
  apply nextYm_unique y 1 _ y _ (by omega) <;> (simp only [Int.ofNat_eq_natCast]; omega)

theorem next_plain_eq (w : SolarWeek) (n : Int) (hv : validYmd w.year w.month w.day = true) (hn : n ≠ 0) :
    ∃ c1, (Solar.mk w.year w.month w.day 0 0 0).nextDay (n * 7) = some c1 ∧ w.next n false = some (weekOf c1 w.start) ∧
      c1.valid = true ∧ c1.jdn = jdn w.year w.month w.day + 7 * n := by
  obtain ⟨e, hcv⟩ := newSolarYmd_some _ _ _ hv
  obtain ⟨c1, e1, h1, h2, -⟩ := nextDay_spec_strong ⟨w.year, w.month, w.day, 0, 0, 0⟩ (n * 7) hcv
  refine ⟨c1, e1, ?_, h1, ?_⟩
  · simp only [SolarWeek.next, hn, if_false, e, Bool.false_eq_true, e1]
  · rw [h2]; simp only [Solar.jdn]; omega

/-- moving n whole weeks = moving 7n days; and back -/
theorem week_next_plain (w : SolarWeek) (n : Int) (hv : validYmd w.year w.month w.day = true) (hn : n ≠ 0) :
    ∃ r, w.next n false = some r ∧ r.start = w.start ∧ validYmd r.year r.month r.day = true ∧
      jdn r.year r.month r.day = jdn w.year w.month w.day + 7 * n := by
  obtain ⟨c1, _, e, h1, h2⟩ := next_plain_eq w n hv hn
  exact ⟨_, e, rfl, (valid_parts c1 h1).1, h2⟩

theorem week_next_plain_back (w r : SolarWeek) (n : Int) (hv : validYmd w.year w.month w.day = true)
    (h : w.next n false = some r) : r.next (-n) false = some w := by
  by_cases hn : n = 0
  · subst hn
    cases h
    rfl
  · obtain ⟨c1, -, e, h1, h2⟩ := next_plain_eq w n hv hn
    cases h.symm.trans e
    obtain ⟨c0, e0, e', -⟩ := next_plain_eq (weekOf c1 w.start) (-n) (valid_parts c1 h1).1 (by omega)
    -- `7n` days back from the date of `c1` is the date of `w`
    cases e0.symm.trans (nextDay_eq_some _ ⟨w.year, w.month, w.day, 0, 0, 0⟩ _
      (newSolarYmd_some _ _ _ (valid_parts c1 h1).1).2 (newSolarYmd_some _ _ _ hv).2
      (by simp only [Solar.jdn, weekOf] at h2 ⊢; omega) rfl rfl rfl)
    exact e'

/-- `hy` and `hr` are not needed (`week_next_plain_back`) -/
theorem week_next_plain_inv (w r : SolarWeek) (n : Int) (hv : validYmd w.year w.month w.day = true) (hy : 1 ≤ w.year) (h : w.next n false = some r) (hr : 1 ≤ r.year) :
    r.next (-n) false = some w :=
  week_next_plain_back w r n hv h

theorem beyond_iff (y m : Int) (hm : 1 ≤ m ∧ m ≤ 12) (x : Solar) (hx : x.valid = true) (hge : jdn y m 1 ≤ x.jdn) :
    (x.year > y ∨ x.month > m) ↔ jdn y m 1 + daysOfMonth y m ≤ x.jdn := by
  have hlt := lex_jdn_lt x.year x.month x.day y m 1 (valid_parts x hx).1 (valid_first y m hm)
  rw [← Solar.jdn] at hlt
  constructor
  · intro h
    by_cases hc : jdn y m 1 + daysOfMonth y m ≤ x.jdn
    · exact hc
    · have := month_of_jdn x hx y m hm hge (by omega)
      omega
  · intro h
    by_cases hc : x.year > y ∨ x.month > m
    · exact hc
    · by_cases hl : x.year < y ∨ (x.year = y ∧ (x.month < m ∨ (x.month = m ∧ x.day < 1)))
      · have := hlt hl
        omega
      · have := (valid_month x hx).2.2.2
        rw [show x.year = y by omega, show x.month = m by omega] at this
        omega

/-- entered with week number `N`, the loop lists the weeks `N, …, E`, `E` the week of the month's last day -/
theorem monthWeeksLoop_spec (y m start E : Int) (hm : 1 ≤ m ∧ m ≤ 12) (hs : 0 ≤ start ∧ start ≤ 6)
    (hE : E = weekNo start (jdn y m 1 + daysOfMonth y m - 1)) (fuel : Nat) :
    ∀ (w : SolarWeek) (N : Int), validYmd w.year w.month w.day = true → w.start = start →
      N = weekNo start (jdn w.year w.month w.day) → weekNo start (jdn y m 1) ≤ N → N ≤ E → E - N < fuel →
      ∃ l, monthWeeksLoop y m fuel w = some l ∧ (l.length : Int) = E - N + 1 ∧
        ∀ i : Nat, i < l.length → ∃ w', l[i]? = some w' ∧ w'.start = start ∧
          validYmd w'.year w'.month w'.day = true ∧ weekNo start (jdn w'.year w'.month w'.day) = N + i := by
  induction fuel with
  | zero => intro w N hv hst hN h1 h2 h3; omega
  | succ k ih =>
    intro w N hv hst hN h1 h2 h3
    subst hst
    obtain ⟨c1, _, e, hc1v, hj1⟩ := next_plain_eq w 1 hv (by omega)
    have hv1 := (valid_parts c1 hc1v).1
    have hN1 : N + 1 = weekNo w.start (jdn c1.year c1.month c1.day) := by
      rw [← Solar.jdn, hj1, weekNo_add7, hN]
    obtain ⟨fd, efd, hfdv, hfdj, -⟩ := firstDay_core (weekOf c1 w.start) hv1 hs
    -- the loop's test: the next week begins after the month's last day, i.e. the last week is reached
    have hfd : (fd.year > y ∨ fd.month > m) ↔ E < N + 1 := by
      have hA := weekNo_spec w.start (jdn y m 1)
      have hB := weekNo_spec w.start (jdn y m 1 + daysOfMonth y m - 1)
      simp only [weekOf, ← hN1] at hfdj
      rw [beyond_iff y m hm fd hfdv (by omega)]
      omega
    simp only [monthWeeksLoop, e, efd]
    by_cases hc : fd.year > y ∨ fd.month > m
    · have := hfd.1 hc
      refine ⟨[w], if_pos hc, by rw [List.length_singleton]; omega, fun i hi => ?_⟩
      cases (by simpa using hi : i = 0)
      exact ⟨w, rfl, rfl, hv, by omega⟩
    · have := mt hfd.2 hc
      clear hfd
      rw [if_neg hc]
      obtain ⟨l, el, hlen, hget⟩ := ih (weekOf c1 w.start) (N + 1) hv1 rfl hN1 (by omega) (by omega) (by omega)
      refine ⟨w :: l, by rw [el]; rfl, by rw [List.length_cons]; omega, fun i hi => ?_⟩
      cases i with
      | zero => exact ⟨w, rfl, rfl, hv, by omega⟩
      | succ i =>
        obtain ⟨w', e', hs', hv', hn'⟩ := hget i (by rw [List.length_cons] at hi; omega)
        exact ⟨w', by rw [List.getElem?_cons_succ, e'], hs', hv', by omega⟩

/-- for every month, October 1582 included -/
theorem monthWeeks_rows (y m start : Int) (hm : 1 ≤ m ∧ m ≤ 12) (hs : 0 ≤ start ∧ start ≤ 6) :
    ∃ l, monthWeeks y m start = some l ∧ (l.length : Int) = weeksOfMonth y m start ∧
      ∀ i : Nat, i < l.length → ∃ w, l[i]? = some w ∧ w.start = start ∧ (∃ f, w.firstDay = some f ∧ f.jdn = (match (SolarWeek.mk y m 1 start).firstDay with | some f0 => f0.jdn | none => 0) + 7 * i) := by
  have hv1 := valid_first y m hm
  obtain ⟨f0, ef0, _, hf0j, _⟩ := firstDay_core ⟨y, m, 1, start⟩ hv1 hs
  simp only at hf0j
  -- at most 31 days after the first week's first day: fuel 8 suffices
  have hb := daysOfMonth_bounds y m hm.1 hm.2
  have hfuel : weekNo start (jdn y m 1 + daysOfMonth y m - 1) - weekNo start (jdn y m 1) < (8 : Nat) := by
    have := weekNo_spec start (jdn y m 1)
    have := weekNo_spec start (jdn y m 1 + daysOfMonth y m - 1)
    omega
  obtain ⟨l, el, hlen, hget⟩ := monthWeeksLoop_spec y m start _ hm hs rfl 8 ⟨y, m, 1, start⟩
    (weekNo start (jdn y m 1)) hv1 rfl rfl (Int.le_refl _) (weekNo_mono start (by omega)) hfuel
  refine ⟨l, el, by rw [hlen, weeksOfMonth_weekNo y m start hs], fun i hi => ?_⟩
  obtain ⟨w, e, rfl, hwv, hwn⟩ := hget i hi
  obtain ⟨f, ef, _, hfj, _⟩ := firstDay_core w hwv hs
  exact ⟨w, e, rfl, f, ef, by rw [ef0, hfj, hwn]; simp only [hf0j]; omega⟩

/-- `hy` and `hn` are not needed (`monthWeeks_rows`) -/
theorem monthWeeks_length (y m start : Int) (hy : 1 ≤ y) (hm : 1 ≤ m ∧ m ≤ 12) (hn : ¬ (y = 1582 ∧ m = 10)) (hs : 0 ≤ start ∧ start ≤ 6) :
    ∃ l, monthWeeks y m start = some l ∧ (l.length : Int) = weeksOfMonth y m start ∧
      ∀ i : Nat, i < l.length → ∃ w, l[i]? = some w ∧ w.start = start ∧ (∃ f, w.firstDay = some f ∧ f.jdn = (match (SolarWeek.mk y m 1 start).firstDay with | some f0 => f0.jdn | none => 0) + 7 * i) :=
  monthWeeks_rows y m start hm hs

/-- the position of a week in the sequence (month, week 1..k), (next month, week 1..) that the month-separated
walk moves through -/
def weekPos (w : SolarWeek) : Int × Int × Int := (w.year, w.month, w.index)
def succPos (start : Int) (p : Int × Int × Int) : Int × Int × Int :=
  if p.2.2 < weeksOfMonth p.1 p.2.1 start then (p.1, p.2.1, p.2.2 + 1) else ((nextYm p.1 p.2.1 1).1, (nextYm p.1 p.2.1 1).2, 1)

/-- previous position in the sequence (month, week 1..k) -/
def predPos (start : Int) (p : Int × Int × Int) : Int × Int × Int :=
  if 1 < p.2.2 then (p.1, p.2.1, p.2.2 - 1)
  else ((nextYm p.1 p.2.1 (-1)).1, (nextYm p.1 p.2.1 (-1)).2,
        weeksOfMonth (nextYm p.1 p.2.1 (-1)).1 (nextYm p.1 p.2.1 (-1)).2 start)

/-- `Nat.iterate` is not in core Lean (it lives in Mathlib, which this project does not link); this is the
same definition (`f^[0] a = a`, `f^[k+1] a = f^[k] (f a)`), as `Model.Nat.iterate`. -/
def Nat.iterate {α : Sort u} (op : α → α) : Nat → α → α
  | 0, a => a
  | k + 1, a => Nat.iterate op k (op a)

theorem succPos_lt (start y m i : Int) (h : i < weeksOfMonth y m start) :
    succPos start (y, m, i) = (y, m, i + 1) := if_pos h

theorem succPos_ge (start y m i : Int) (h : ¬ i < weeksOfMonth y m start) :
    succPos start (y, m, i) = ((nextYm y m 1).1, (nextYm y m 1).2, 1) := if_neg h

theorem predPos_gt (start y m i : Int) (h : 1 < i) : predPos start (y, m, i) = (y, m, i - 1) := if_pos h

theorem predPos_le (start y m i : Int) (h : ¬ 1 < i) :
    predPos start (y, m, i) = ((nextYm y m (-1)).1, (nextYm y m (-1)).2,
        weeksOfMonth (nextYm y m (-1)).1 (nextYm y m (-1)).2 start) := if_neg h

theorem weekPos_eq (x : Solar) (start : Int) (hx : x.valid = true) (hs : 0 ≤ start ∧ start ≤ 6) :
    weekPos (weekOf x start) =
      (x.year, x.month, weekNo start x.jdn - weekNo start (jdn x.year x.month 1) + 1) :=
  congrArg (fun i => (x.year, x.month, i)) (index_eq x.year x.month x.day start (valid_parts x hx).1 hs)

theorem near_months (x x' : Solar) (hx : x.valid = true) (hx' : x'.valid = true) (h1 : x.jdn ≤ x'.jdn)
    (h2 : x'.jdn ≤ x.jdn + 20) :
    (x'.year = x.year ∧ x'.month = x.month ∧ x'.jdn < jdn x.year x.month 1 + daysOfMonth x.year x.month) ∨
    (nextYm x.year x.month 1 = (x'.year, x'.month) ∧ x'.month ≠ x.month ∧
      jdn x'.year x'.month 1 = jdn x.year x.month 1 + daysOfMonth x.year x.month) := by
  obtain ⟨hm1, hm2, hA, hB⟩ := valid_month x hx
  by_cases h : x'.jdn < jdn x.year x.month 1 + daysOfMonth x.year x.month
  · obtain ⟨ey, em⟩ := month_of_jdn x' hx' _ _ ⟨hm1, hm2⟩ (by omega) h
    exact .inl ⟨ey, em, h⟩
  · have hnx := jdn_nextYm x.year x.month ⟨hm1, hm2⟩
    obtain ⟨hn1, hn2, hn3⟩ := nextYm_spec x.year x.month 1 hm1 hm2
    generalize nextYm x.year x.month 1 = p at hnx hn1 hn2 hn3 ⊢
    have hL := daysOfMonth_bounds p.1 p.2 hn1 hn2
    obtain ⟨ey, em⟩ := month_of_jdn x' hx' p.1 p.2 ⟨hn1, hn2⟩ (by omega) (by omega)
    rw [ey, em]
    exact .inr ⟨rfl, by omega, hnx⟩

/-- `x`, `x'` in consecutive cells (month, week): the month boundary `D` does not separate them and `x'` is in the next
week, or it does, `x` is in the last week before `D` and `x'` in the first week from `D` on -/
theorem weekPos_adj (start : Int) (hs : 0 ≤ start ∧ start ≤ 6) (x x' : Solar) (hx : x.valid = true)
    (hx' : x'.valid = true) (D : Int)
    (hD : D = jdn x.year x.month 1 + daysOfMonth x.year x.month ∨ D = jdn x'.year x'.month 1)
    (h : x.jdn ≤ x'.jdn ∧ x'.jdn ≤ x.jdn + 20 ∧
      ((¬ (x.jdn < D ∧ D ≤ x'.jdn) ∧ weekNo start x'.jdn = weekNo start x.jdn + 1) ∨
        (x.jdn < D ∧ D ≤ x'.jdn ∧ weekNo start (D - 1) ≤ weekNo start x.jdn ∧
          weekNo start x'.jdn ≤ weekNo start D))) :
    weekPos (weekOf x' start) = succPos start (weekPos (weekOf x start)) ∧
      weekPos (weekOf x start) = predPos start (weekPos (weekOf x' start)) := by
  obtain ⟨hm1, hm2, hJ⟩ := valid_month x hx
  obtain ⟨-, -, hJ'⟩ := valid_month x' hx'
  have hW := weeksOfMonth_weekNo x.year x.month start hs
  rw [weekPos_eq x start hx hs, weekPos_eq x' start hx' hs]
  rcases near_months x x' hx hx' h.1 h.2.1 with ⟨ey, em, -⟩ | ⟨e, -, hB⟩
  · -- same month: `D`, its end or beginning, cannot lie between `x` and `x'`
    rw [ey, em] at hJ' hD ⊢
    have := weekNo_mono start (Int.le_sub_one_of_lt hJ'.2)
    have := weekNo_mono start hJ.1
    rw [succPos_lt _ _ _ _ (by omega), predPos_gt _ _ _ _ (by omega)]
    simp only [Prod.mk.injEq, true_and]
    omega
  · -- consecutive months: `D` is the 1st of the month of `x'`
    have e' := nextYm_inv x.year x.month 1 ⟨hm1, hm2⟩
    rw [e] at e'
    rw [← hB] at hD hJ hW
    have hD' : D = jdn x'.year x'.month 1 := by omega
    subst hD'
    have := weekNo_mono start (Int.le_sub_one_of_lt hJ.2)
    have := weekNo_mono start hJ'.1
    rw [succPos_ge _ _ _ _ (by omega), predPos_le _ _ _ _ (by omega), e, e', hW]
    simp only [Prod.mk.injEq, true_and]
    omega

/-- loop invariant of `nextSepLoop`, both directions: the current date `c` lies in the week of the date `x` of `week` -/
def SepInv (start : Int) (c x : Solar) : Prop :=
  c.valid = true ∧ x.valid = true ∧ weekNo start c.jdn = weekNo start x.jdn

/-- an iteration from `c` and the week of `x` leads to `c'` and the week of `x'`, keeps the invariant and moves the position by `f` -/
def SepStep (start : Int) (plus : Bool) (f : Int × Int × Int → Int × Int × Int) (k : Nat) (c x : Solar) : Prop :=
  ∃ c' x', nextSepLoop start plus (k + 1) c (weekOf x start) x.month =
      nextSepLoop start plus k c' (weekOf x' start) x'.month ∧
    SepInv start c' x' ∧ weekPos (weekOf x' start) = f (weekPos (weekOf x start))

theorem sep_step_fwd (start : Int) (hs : 0 ≤ start ∧ start ≤ 6) (k : Nat) (c x : Solar)
    (hI : SepInv start c x) : SepStep start true (succPos start) k c x := by
  unfold SepStep
  obtain ⟨hcv, hxv, hwk⟩ := hI
  obtain ⟨c1, e1, hc1v, hj1, -⟩ := nextDay_spec_strong c 7 hcv
  have hw1 : weekNo start c1.jdn = weekNo start x.jdn + 1 := by
    rw [hj1, ← hwk]; exact weekNo_add7 _ _ 1
  have hc6 := le_of_weekNo_eq start hwk.symm
  have hx6 := le_of_weekNo_eq start hwk
  have hB := (valid_month x hxv).2.2.2
  rw [nextSepLoop]
  simp only [if_true, e1]
  -- `D`: the first day of the next month
  generalize hD : jdn x.year x.month 1 + daysOfMonth x.year x.month = D at hB
  have adj := fun x' hx' => weekPos_adj start hs x x' hxv hx' D (.inl hD.symm)
  rcases near_months x c1 hxv hc1v (by omega) (by omega) with ⟨ey, em, hlt⟩ | ⟨-, hne, hD'⟩
  · -- `c + 7` is still in the month
    rw [if_neg (show ¬ x.month ≠ (weekOf c1 start).month from (· em.symm)), ← em]
    exact ⟨c1, c1, rfl, ⟨hc1v, hc1v, rfl⟩, (adj c1 hc1v (by omega)).1⟩
  · -- `c + 7` is in the next month
    rw [hD] at hD'
    rw [if_pos (show x.month ≠ (weekOf c1 start).month from hne.symm)]
    obtain ⟨m1, m2, hA1, -⟩ := valid_month c1 hc1v
    have hidx : (weekOf c1 start).index = _ := index_eq c1.year c1.month c1.day start (valid_parts c1 hc1v).1 hs
    rw [← Solar.jdn, hD'] at hidx
    rw [hD'] at hA1
    have := weekNo_mono start (show D - 1 ≤ D by omega)
    have := weekNo_mono start hA1
    by_cases hi1 : (weekOf c1 start).index = 1
    · -- its first week: go on from the first day of that week
      rw [if_pos hi1]
      obtain ⟨fd, efd, hfdv, hwkd⟩ := firstDay_week c1 start hc1v hs
      have f1 := (hwkd fd.jdn).2 ⟨Int.le_refl _, by omega⟩
      have f2 := ((hwkd c1.jdn).1 rfl).1
      -- for omega: before `fd` means an earlier week; `fd`, in a later week than `x`, is after `x`
      have := mt (hwkd (D - 1)).1
      have := mt (weekNo_mono start (J := fd.jdn) (J' := x.jdn))
      rw [efd]
      exact ⟨c1, fd, rfl, ⟨hc1v, hfdv, f1.symm⟩, (adj fd hfdv (by omega)).1⟩
    · -- a later week: restart from the 1st of the new month
      rw [if_neg hi1]
      obtain ⟨e2, hc2v⟩ := newSolarYmd_some c1.year c1.month 1 (valid_first _ _ ⟨m1, m2⟩)
      have hc2j : (Solar.mk c1.year c1.month 1 0 0 0).jdn = D := hD'
      rw [show newSolarYmd (weekOf c1 start).year (weekOf c1 start).month 1 = _ from e2]
      exact ⟨_, _, rfl, ⟨hc2v, hc2v, rfl⟩, (adj _ hc2v (by rw [hc2j]; omega)).1⟩

theorem sep_step_bwd (start : Int) (hs : 0 ≤ start ∧ start ≤ 6) (k : Nat) (c x : Solar)
    (hI : SepInv start c x) : SepStep start false (predPos start) k c x := by
  unfold SepStep
  obtain ⟨hcv, hxv, hwk⟩ := hI
  obtain ⟨c1, e1, hc1v, hj1, -⟩ := nextDay_spec_strong c (-7) hcv
  have hw1 : weekNo start x.jdn = weekNo start c1.jdn + 1 := by
    rw [hj1, ← hwk, show c.jdn + -7 = c.jdn + 7 * -1 from rfl, weekNo_add7]; omega
  have hc6 := le_of_weekNo_eq start hwk
  have hx6 := le_of_weekNo_eq start hwk.symm
  have hA := (valid_month x hxv).2.2.1
  rw [nextSepLoop]
  simp only [Bool.false_eq_true, if_false, e1]
  -- `D`: the first day of the month of `x`
  generalize hD : jdn x.year x.month 1 = D at hA
  have adj := fun x' hx' => weekPos_adj start hs x' x hx' hxv D (.inr hD.symm)
  rcases near_months c1 x hc1v hxv (by omega) (by omega) with ⟨ey, em, hlt⟩ | ⟨-, hne, hD'⟩
  · -- `c - 7` is still in the month
    have := (valid_month c1 hc1v).2.2.1
    rw [← ey, ← em, hD] at this
    rw [if_neg (show ¬ x.month ≠ (weekOf c1 start).month from (· em)), em]
    exact ⟨c1, c1, rfl, ⟨hc1v, hc1v, rfl⟩, (adj c1 hc1v (by omega)).2⟩
  · -- `c - 7` is in the previous month
    rw [hD] at hD'
    rw [if_pos (show x.month ≠ (weekOf c1 start).month from hne)]
    obtain ⟨m1, m2, -, hB1⟩ := valid_month c1 hc1v
    have hidx : (weekOf c1 start).index = _ := index_eq c1.year c1.month c1.day start (valid_parts c1 hc1v).1 hs
    have hwom : weeksOfMonth (weekOf c1 start).year (weekOf c1 start).month start = _ :=
      weeksOfMonth_weekNo c1.year c1.month start hs
    rw [← hD'] at hwom hB1
    rw [← Solar.jdn] at hidx
    have := weekNo_mono start (show D - 1 ≤ D by omega)
    have := weekNo_mono start (Int.le_sub_one_of_lt hB1)
    by_cases hi1 : weeksOfMonth (weekOf c1 start).year (weekOf c1 start).month start = (weekOf c1 start).index
    · -- its last week: continue with the last day of that week
      rw [if_pos hi1]
      obtain ⟨fd, efd, hfdv, hwkd⟩ := firstDay_week c1 start hc1v hs
      obtain ⟨ld, eld, hldv, hldj, -⟩ := nextDay_spec_strong fd 6 hfdv
      have f1 := (hwkd ld.jdn).2 ⟨by omega, by omega⟩
      obtain ⟨f2, f3⟩ := (hwkd c1.jdn).1 rfl
      -- for omega: after `ld` means a later week; `ld`, in an earlier week than `x`, is before `x`
      have := mt (hwkd D).1
      have := mt (weekNo_mono start (J := x.jdn) (J' := ld.jdn))
      simp only [efd, eld]
      exact ⟨c1, ld, rfl, ⟨hc1v, hldv, f1.symm⟩, (adj ld hldv (by omega)).2⟩
    · -- an earlier week: restart from the last day of the previous month
      rw [if_neg hi1]
      obtain ⟨e2, hfv⟩ := newSolarYmd_some c1.year c1.month 1 (valid_first _ _ ⟨m1, m2⟩)
      obtain ⟨c2, ec, hc2v, hj2, -⟩ := nextDay_spec_strong _ (daysOfMonth c1.year c1.month - 1) hfv
      replace hj2 : c2.jdn = D - 1 := by rw [hj2, hD']; simp only [Solar.jdn]; omega
      have hb := daysOfMonth_bounds c1.year c1.month m1 m2
      have em2 := (month_of_jdn c2 hc2v c1.year c1.month ⟨m1, m2⟩ (by omega) (by omega)).2
      rw [show (newSolarYmd (weekOf c1 start).year (weekOf c1 start).month 1).bind _ = some c2 from
        e2 ▸ ec, ← show c2.month = (weekOf c1 start).month from em2]
      exact ⟨c2, c2, rfl, ⟨hc2v, hc2v, rfl⟩, (adj c2 hc2v (by rw [hj2]; omega)).2⟩

theorem sep_walk (w : SolarWeek) (hv : validYmd w.year w.month w.day = true) (weeks : Int) (hw : weeks ≠ 0)
    (f : Int × Int × Int → Int × Int × Int)
    (step : ∀ k c x, SepInv w.start c x → SepStep w.start (decide (weeks > 0)) f k c x) :
    ∃ r, w.next weeks true = some r ∧ r.start = w.start ∧ validYmd r.year r.month r.day = true ∧
      weekPos r = Nat.iterate f weeks.natAbs (weekPos w) := by
  have key (n : Nat) : ∀ c x, SepInv w.start c x →
      ∃ r, nextSepLoop w.start (decide (weeks > 0)) n c (weekOf x w.start) x.month = some r ∧ r.start = w.start ∧
        validYmd r.year r.month r.day = true ∧ weekPos r = Nat.iterate f n (weekPos (weekOf x w.start)) := by
    induction n with
    | zero => exact fun c x hI => ⟨_, rfl, rfl, (valid_parts x hI.2.1).1, rfl⟩
    | succ k ih =>
      intro c x hI
      obtain ⟨c', x', e, hI', hp⟩ := step k c x hI
      obtain ⟨r, er, h1, h2, h3⟩ := ih c' x' hI'
      exact ⟨r, e.trans er, h1, h2, by rw [h3, hp]; rfl⟩
  obtain ⟨e, hcv⟩ := newSolarYmd_some _ _ _ hv
  simp only [SolarWeek.next, hw, if_false, e, if_true]
  exact key _ _ _ ⟨hcv, hcv, rfl⟩

/-- any year, October 1582 included -/
theorem next_sep_walk_all (w : SolarWeek) (n : Nat) (hn : 1 ≤ n) (hv : validYmd w.year w.month w.day = true)
    (hs : 0 ≤ w.start ∧ w.start ≤ 6) :
    ∃ r, w.next n true = some r ∧ r.start = w.start ∧ validYmd r.year r.month r.day = true ∧
      weekPos r = Nat.iterate (succPos w.start) n (weekPos w) := by
  have := sep_walk w hv n (by omega) _
    (by rw [decide_eq_true (by omega : (n : Int) > 0)]; exact sep_step_fwd w.start hs)
  rwa [Int.natAbs_natCast] at this

/-- the year bound `hy` is not needed (`next_sep_walk_all`) -/
theorem next_sep_one (w : SolarWeek) (hv : validYmd w.year w.month w.day = true) (hs : 0 ≤ w.start ∧ w.start ≤ 6)
    (hy : 1583 ≤ w.year) :
    ∃ r, w.next 1 true = some r ∧ r.start = w.start ∧ validYmd r.year r.month r.day = true ∧ weekPos r = succPos w.start (weekPos w) :=
  next_sep_walk_all w 1 (Nat.le_refl 1) hv hs

/-- and n steps move n positions (n ≥ 1); `hy` is not needed -/
theorem next_sep_walk (w : SolarWeek) (n : Nat) (hn : 1 ≤ n) (hv : validYmd w.year w.month w.day = true) (hs : 0 ≤ w.start ∧ w.start ≤ 6)
    (hy : 1583 ≤ w.year) :
    ∃ r, w.next n true = some r ∧ weekPos r = Nat.iterate (succPos w.start) n (weekPos w) := by
  obtain ⟨r, e, _, _, h⟩ := next_sep_walk_all w n hn hv hs
  exact ⟨r, e, h⟩

theorem prev_sep_walk_all (w : SolarWeek) (n : Nat) (hn : 1 ≤ n) (hv : validYmd w.year w.month w.day = true)
    (hs : 0 ≤ w.start ∧ w.start ≤ 6) :
    ∃ r, w.next (-(n : Int)) true = some r ∧ r.start = w.start ∧ validYmd r.year r.month r.day = true ∧
      weekPos r = Nat.iterate (predPos w.start) n (weekPos w) := by
  have := sep_walk w hv (-(n : Int)) (by omega) _
    (by rw [decide_eq_false (by omega : ¬ -(n : Int) > 0)]; exact sep_step_bwd w.start hs)
  rwa [Int.natAbs_neg, Int.natAbs_natCast] at this

/-- n steps backwards in month-separated mode move n positions back; `hy` is not needed (`prev_sep_walk_all`) -/
theorem prev_sep_walk (w : SolarWeek) (n : Nat) (hn : 1 ≤ n) (hv : validYmd w.year w.month w.day = true) (hs : 0 ≤ w.start ∧ w.start ≤ 6)
    (hy : 1583 * 12 + (n : Int) ≤ w.year * 12 + (w.month - 1)) :
    ∃ r, w.next (-(n : Int)) true = some r ∧ r.start = w.start ∧ validYmd r.year r.month r.day = true ∧
      weekPos r = Nat.iterate (predPos w.start) n (weekPos w) :=
  prev_sep_walk_all w n hn hv hs

end Model

#print axioms Model.firstDay_spec
#print axioms Model.days_spec
#print axioms Model.daysInMonth_spec
#print axioms Model.index_first
#print axioms Model.index_succ
#print axioms Model.index_succ_1582
#print axioms Model.indexInYear_first
#print axioms Model.indexInYear_succ
#print axioms Model.weeksOfMonth_eq_last_index_partial
#print axioms Model.weeksOfMonth_eq_last_index_1582
#print axioms Model.monthWeeks_length
#print axioms Model.monthDays_spec
#print axioms Model.oct1582_21
#print axioms Model.seasonMonths_spec
#print axioms Model.halfYearMonths_spec
#print axioms Model.yearMonths_spec
#print axioms Model.nextYm_total
#print axioms Model.nextYm_add
#print axioms Model.nextYm_inv
#print axioms Model.seasonNext_inv
#print axioms Model.halfYearNext_inv
#print axioms Model.week_next_plain
#print axioms Model.week_next_plain_inv
#print axioms Model.next_sep_one
#print axioms Model.next_sep_walk
#print axioms Model.prev_sep_walk
