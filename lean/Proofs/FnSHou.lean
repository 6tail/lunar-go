/-
Proofs.FnSHou — `Lunar.GetHou` / `GetWuHou` of the string-mode generated code (atom `a1` =
`lunar.GetPrevJieQiByWholeDay(true)`): for all inputs in terms of the day difference to the previous term, and
equal to the model when the atom is the model's previous term. Helpers carry the prefix `sf_`.
-/
import Proofs.FnSFmt
import Proofs.FnCivil1
import Model.Season

namespace FnSEq
open FnEq
open Gen.Fn (Err)
open Gen.Tables

/-- the string-mode copy of `Solar.Subtract` is the int-mode one (same body), hence the model's -/
theorem sf_solarSubtract_eq (s o : Gen.FnS.Solar) (hs : s.month ≤ 13) (ho : o.month ≤ 13) :
    Gen.FnS.calendar_Solar_Subtract s o = (match (solarToM s).subtract (solarToM o) with
      | some r => .ok r | none => .error .panic) :=
  getDaysBetween_eq o.year o.month o.day s.year s.month s.day ho hs

theorem sf_solarSubtract_panic (s o : Gen.FnS.Solar) (h : 13 < s.month ∨ 13 < o.month) :
    Gen.FnS.calendar_Solar_Subtract s o = .error .panic :=
  getDaysBetween_panic o.year o.month o.day s.year s.month s.day (Or.symm h)

/-- Go's `/` truncates: the index `d / 5` is negative, and the table read panics, from `d = -5` downwards -/
theorem sf_tdiv5_nonneg (d : Int) : 0 ≤ Int.tdiv d 5 ↔ -5 < d := by
  rcases Int.le_total 0 d with h | h
  · rw [Int.tdiv_eq_ediv_of_nonneg h]; omega
  · have : Int.tdiv d 5 = -((-d) / 5) := by
      rw [← Int.tdiv_eq_ediv_of_nonneg (by omega), Int.neg_tdiv, Int.neg_neg]
    rw [this]; omega

/-- `GetHou` for all inputs, in terms of the day difference `lunar.solar − a1.solar` -/
theorem lunarGetHou_total (a1 : Gen.FnS.JieQi) (l : Gen.FnS.Lunar) :
    Gen.FnS.calendar_Lunar_GetHou a1 l =
      if 13 < l.solar.month ∨ 13 < a1.solar.month then .error .panic else
      match (solarToM l.solar).subtract (solarToM a1.solar) with
      | none => .error .panic
      | some d =>
        if -5 < d then .ok (a1.name ++ " " ++ Model.strGetD LunarUtil.«HOU» (if Int.tdiv d 5 > 2 then 2 else Int.tdiv d 5))
        else .error .panic := by
  unfold Gen.FnS.calendar_Lunar_GetHou
  simp only [show Gen.FnS.calendar_JieQi_GetSolar a1 = .ok a1.solar from rfl,
    show Gen.FnS.calendar_JieQi_GetName a1 = .ok a1.name from rfl, sb_bind_ok]
  by_cases hm : 13 < l.solar.month ∨ 13 < a1.solar.month
  · rw [if_pos hm, sf_solarSubtract_panic _ _ hm]; rfl
  · rw [if_neg hm, sf_solarSubtract_eq _ _ (by omega) (by omega)]
    cases (solarToM l.solar).subtract (solarToM a1.solar) with
    | none => rfl
    | some d =>
      have h0 := sf_tdiv5_nonneg d
      simp only [sb_bind_ok, decide_eq_true_eq, Int.reduceSub]
      split
      · rw [if_pos (by omega), sidx_in _ 3 rfl _ (by omega) (by omega)]; rfl
      · by_cases h : -5 < d
        · rw [if_pos h, sidx_in _ 3 rfl _ (by omega) (by omega)]; rfl
        · rw [if_neg h, sidx_out _ 3 rfl _ (by omega)]; rfl

/-- MAIN: `Lunar.GetHou` = `Model.Lunar.hou` when the atom is the model's previous term `(name, js)`.
Guards: months ≤ 13 (`GetDaysInYear` walks the month table; true of every date the library builds) and the
previous term is not after today (`0 ≤ d`; true of `GetPrevJieQiByWholeDay(true)`, which the model's totalised
`strGetD` / floor division do not reproduce for `d < 0`, see `lunarGetHou_total`). -/
theorem lunarGetHou_eq (a1 : Gen.FnS.JieQi) (l : Gen.FnS.Lunar) (terms : List Model.Solar)
    (name : String) (js : Model.Solar)
    (hp : (lunarToM l terms).prevJieQi true = some (name, js))
    (hn : a1.name = name) (hs : solarToM a1.solar = js)
    (hm1 : l.solar.month ≤ 13) (hm2 : a1.solar.month ≤ 13)
    (hd : ∀ d, (solarToM l.solar).subtract js = some d → 0 ≤ d) :
    Gen.FnS.calendar_Lunar_GetHou a1 l
      = (match Model.Lunar.hou (lunarToM l terms) with | some r => .ok r | none => .error .panic) := by
  rw [lunarGetHou_total, if_neg (by omega), Model.Lunar.hou, hp]
  subst hn hs
  simp only [lunarToM_solar]
  cases hsub : (solarToM l.solar).subtract (solarToM a1.solar) with
  | none => rfl
  | some d =>
    have h0 : 0 ≤ d := hd d hsub
    simp only [if_pos (show -5 < d by omega), Int.tdiv_eq_ediv_of_nonneg h0]
    rfl

/-- when there is no previous term the Go code dereferences nil; the model says `none` -/
theorem lunarGetHou_model_none (L : Model.Lunar) (hp : L.prevJieQi true = none) : L.hou = none := by
  unfold Model.Lunar.hou; rw [hp]

/-- position of a term name in `JIE_QI` as the Go loop computes it (0 when absent) -/
def sf_jqOffset (name : String) : Int :=
  match calendar.«JIE_QI».findIdx? (· == name) with | some i => (i : Int) | none => 0

theorem sf_jqOffset_nonneg (name : String) : 0 ≤ sf_jqOffset name := by
  unfold sf_jqOffset; split <;> omega

/-- `GetWuHou` for all inputs, in terms of the day difference `lunar.solar − a1.solar` -/
theorem lunarGetWuHou_total (a1 : Gen.FnS.JieQi) (l : Gen.FnS.Lunar) :
    Gen.FnS.calendar_Lunar_GetWuHou a1 l =
      if 13 < l.solar.month ∨ 13 < a1.solar.month then .error .panic else
      match (solarToM l.solar).subtract (solarToM a1.solar) with
      | none => .error .panic
      | some d =>
        Gen.FnS.sidx LunarUtil.«WU_HOU»
          (Int.tmod (sf_jqOffset a1.name * 3 + (if Int.tdiv d 5 > 2 then 2 else Int.tdiv d 5)) 72) := by
  unfold Gen.FnS.calendar_Lunar_GetWuHou
  simp only [show Gen.FnS.calendar_JieQi_GetSolar a1 = .ok a1.solar from rfl,
    show Gen.FnS.calendar_JieQi_GetName a1 = .ok a1.name from rfl, sb_bind_ok]
  rw [forIn_range_search calendar.«JIE_QI» 24 rfl a1.name 0 (fun i => (i : Int)) _
    fun k hk => searchStep _ _ k hk _ _, sb_bind_ok]
  by_cases hm : 13 < l.solar.month ∨ 13 < a1.solar.month
  · rw [if_pos hm, sf_solarSubtract_panic _ _ hm]; rfl
  · rw [if_neg hm, sf_solarSubtract_eq _ _ (by omega) (by omega)]
    cases (solarToM l.solar).subtract (solarToM a1.solar) with
    | none => rfl
    | some d =>
      simp only [sb_bind_ok, decide_eq_true_eq]
      split <;> rfl

/-- MAIN: `Lunar.GetWuHou` = `Model.Lunar.wuHou` when the atom is the model's previous term `(name, js)`;
guards as for `lunarGetHou_eq` -/
theorem lunarGetWuHou_eq (a1 : Gen.FnS.JieQi) (l : Gen.FnS.Lunar) (terms : List Model.Solar)
    (name : String) (js : Model.Solar)
    (hp : (lunarToM l terms).prevJieQi true = some (name, js))
    (hn : a1.name = name) (hs : solarToM a1.solar = js)
    (hm1 : l.solar.month ≤ 13) (hm2 : a1.solar.month ≤ 13)
    (hd : ∀ d, (solarToM l.solar).subtract js = some d → 0 ≤ d) :
    Gen.FnS.calendar_Lunar_GetWuHou a1 l
      = (match Model.Lunar.wuHou (lunarToM l terms) with | some r => .ok r | none => .error .panic) := by
  rw [lunarGetWuHou_total, if_neg (by omega), Model.Lunar.wuHou, hp]
  subst hn hs
  simp only [lunarToM_solar]
  cases hsub : (solarToM l.solar).subtract (solarToM a1.solar) with
  | none => rfl
  | some d =>
    have h0 : 0 ≤ d := hd d hsub
    have ht : Int.tdiv d 5 = d / 5 := Int.tdiv_eq_ediv_of_nonneg h0
    have ho := sf_jqOffset_nonneg a1.name
    have hnn : 0 ≤ sf_jqOffset a1.name * 3 + (if d / 5 > 2 then 2 else d / 5) := by omega
    simp only [ht, Int.tmod_eq_emod_of_nonneg hnn]
    rw [sidx_in _ 72 rfl _ (by omega) (by omega)]
    rfl

theorem lunarGetWuHou_model_none (L : Model.Lunar) (hp : L.prevJieQi true = none) : L.wuHou = none := by
  unfold Model.Lunar.wuHou; rw [hp]

end FnSEq
