/-
Proofs.FnPillars — the generated `calendar_computeYear / Month / Day / Time / Week` of `Gen.Fn` against `Model.computeYear /
computeMonth / computeDay / timeZhiIndexOf / computeAll`. For each function a `_raw` theorem says what the generated code
computes for ALL inputs and atom values, and an `_eq` theorem binds the atoms and compares with the all-input form of the
model function from `Proofs.Pillars`; `compute_steps_eq` chains the five. A generated `do` block is first split, by `rfl`,
into stages that tail-call each other and are characterised one by one (the join points of the whole block blow up).
Helper lemmas and definitions carry the prefix `pl_`.
-/
import Proofs.FnCivil1
import Proofs.Pillars

namespace FnEq
open Gen.Fn

/-- last stage of `computeYear`: the four `if v < 0 { v += m }` and the four field writes -/
def pl_yFix (lunar : Lunar) (g z gExact zExact : Int) : Except Err Lunar := do
  let mut lunar := lunar
  let mut g := g
  let mut z := z
  let mut gExact := gExact
  let mut zExact := zExact
  if decide (g < 0) then
    g := (g + 10)
  if decide (z < 0) then
    z := (z + 12)
  if decide (gExact < 0) then
    gExact := (gExact + 10)
  if decide (zExact < 0) then
    zExact := (zExact + 12)
  lunar := { lunar with yearGanIndexByLiChun := (Int.tmod g 10) }
  lunar := { lunar with yearZhiIndexByLiChun := (Int.tmod z 12) }
  lunar := { lunar with yearGanIndexExact := (Int.tmod gExact 10) }
  lunar := { lunar with yearZhiIndexExact := (Int.tmod zExact 12) }
  return lunar

/-- middle stage of `computeYear` -/
def pl_yAdj (a1 : Solar) (a2 : Solar) (a3 : Int) (a4 : Int) (a5 : Int) (a6 : Int) (lunar : Lunar) : Except Err Lunar := do
  let mut g : Int := lunar.yearGanIndex
  let mut z : Int := lunar.yearZhiIndex
  let mut gExact : Int := lunar.yearGanIndex
  let mut zExact : Int := lunar.yearZhiIndex
  let t1 ← calendar_Solar_GetYear lunar.solar
  let mut solarYear : Int := t1
  let mut liChun : Solar := a1
  let t2 ← calendar_Solar_GetYear liChun
  if decide (t2 ≠ solarYear) then
    liChun := a2
  if decide (lunar.year = solarYear) then
    if decide (a3 < 0) then
      g := (g - 1)
      z := (z - 1)
    if decide (a4 < 0) then
      gExact := (gExact - 1)
      zExact := (zExact - 1)
  else
    if decide (lunar.year < solarYear) then
      if decide (a5 ≥ 0) then
        g := (g + 1)
        z := (z + 1)
      if decide (a6 ≥ 0) then
        gExact := (gExact + 1)
        zExact := (zExact + 1)
    else
      g := (g - 1)
      z := (z - 1)
      gExact := (gExact - 1)
      zExact := (zExact - 1)
  pl_yFix lunar g z gExact zExact

/-- first stage of `computeYear` -/
def pl_yPre (a1 : Solar) (a2 : Solar) (a3 : Int) (a4 : Int) (a5 : Int) (a6 : Int) (lunar : Lunar) : Except Err Lunar := do
  let mut lunar := lunar
  let mut offset : Int := (lunar.year - 4)
  lunar := { lunar with yearGanIndex := (Int.tmod offset 10) }
  lunar := { lunar with yearZhiIndex := (Int.tmod offset 12) }
  if decide (lunar.yearGanIndex < 0) then
    lunar := { lunar with yearGanIndex := (lunar.yearGanIndex + 10) }
  if decide (lunar.yearZhiIndex < 0) then
    lunar := { lunar with yearZhiIndex := (lunar.yearZhiIndex + 12) }
  pl_yAdj a1 a2 a3 a4 a5 a6 lunar

theorem pl_year_split (a1 a2 : Solar) (a3 a4 a5 a6 : Int) (l : Lunar) :
    calendar_computeYear a1 a2 a3 a4 a5 a6 l = pl_yPre a1 a2 a3 a4 a5 a6 l := rfl

theorem pl_yFix_eq (lunar : Lunar) (g z gE zE : Int) :
    pl_yFix lunar g z gE zE = .ok { lunar with
      yearGanIndexByLiChun := Int.tmod (if g < 0 then g + 10 else g) 10,
      yearZhiIndexByLiChun := Int.tmod (if z < 0 then z + 12 else z) 12,
      yearGanIndexExact := Int.tmod (if gE < 0 then gE + 10 else gE) 10,
      yearZhiIndexExact := Int.tmod (if zE < 0 then zE + 12 else zE) 12 } := by
  unfold pl_yFix
  by_cases h1 : g < 0 <;> by_cases h2 : z < 0 <;> by_cases h3 : gE < 0 <;> by_cases h4 : zE < 0 <;>
    simp only [h1, h2, h3, h4, decide_true, decide_false, if_true, if_false, pure, Except.pure] <;> rfl

/-- which entry `liChun` ends up holding is immaterial: the comparisons with it are atoms -/
theorem pl_yAdj_eq (a1 a2 : Solar) (a3 a4 a5 a6 : Int) (l : Lunar) :
    pl_yAdj a1 a2 a3 a4 a5 a6 l =
      (let d := Model.lichunShift l.year l.solar.year (decide (a3 < 0)) (decide (a5 ≥ 0))
       let i := Model.lichunShift l.year l.solar.year (decide (a4 < 0)) (decide (a6 ≥ 0))
       pl_yFix l (l.yearGanIndex + d) (l.yearZhiIndex + d) (l.yearGanIndex + i) (l.yearZhiIndex + i)) := by
  unfold pl_yAdj Model.lichunShift
  simp only [calendar_Solar_GetYear, pure, Except.pure, bind, Except.bind, ite_self]
  by_cases hy : l.year = l.solar.year
  · by_cases h3 : a3 < 0 <;> by_cases h4 : a4 < 0 <;> simp [hy, h3, h4, Int.sub_eq_add_neg]
  · by_cases hlt : l.year < l.solar.year
    · by_cases h5 : a5 ≥ 0 <;> by_cases h6 : a6 ≥ 0 <;> simp [hy, hlt, h5, h6]
    · simp [hy, hlt, Int.sub_eq_add_neg]

theorem pl_norm (x m : Int) (hm : 0 < m) : (if Int.tmod x m < 0 then Int.tmod x m + m else Int.tmod x m) = x % m := by
  have h1 := Int.emod_nonneg x (Int.ne_of_gt hm)
  have h2 := Int.emod_lt_of_pos x hm
  rw [Int.tmod_eq_emod]
  split <;> split <;> omega

theorem pl_yPre_eq (a1 a2 : Solar) (a3 a4 a5 a6 : Int) (l : Lunar) :
    pl_yPre a1 a2 a3 a4 a5 a6 l = pl_yAdj a1 a2 a3 a4 a5 a6
      { l with yearGanIndex := (l.year - 4) % 10, yearZhiIndex := (l.year - 4) % 12 } := by
  unfold pl_yPre
  rw [← pl_norm _ 10 (by decide), ← pl_norm _ 12 (by decide)]
  by_cases c1 : Int.tmod (l.year - 4) 10 < 0 <;> by_cases c2 : Int.tmod (l.year - 4) 12 < 0 <;>
    simp only [c1, c2, decide_true, decide_false, if_true, if_false] <;> rfl

theorem pl_fix_tmod (v m : Int) (hv : -m ≤ v) : Int.tmod (if v < 0 then v + m else v) m = v % m := by
  rw [Int.tmod_eq_emod_of_nonneg (by split <;> omega), Model.fix_emod]

def pl_withYear (l : Lunar) (r : Int × Int × Int × Int × Int × Int) : Lunar :=
  { l with yearGanIndex := r.1, yearZhiIndex := r.2.1, yearGanIndexByLiChun := r.2.2.1,
           yearZhiIndexByLiChun := r.2.2.2.1, yearGanIndexExact := r.2.2.2.2.1,
           yearZhiIndexExact := r.2.2.2.2.2 }

/-- What the generated `computeYear` computes, for ALL inputs and atom values, in the shape of
`Model.computeYear_eq_shift`. The atoms `a1 a2` (`lunar.jieQi[…]`) do not influence the result. -/
theorem computeYear_raw (a1 a2 : Solar) (a3 a4 a5 a6 : Int) (l : Lunar) :
    calendar_computeYear a1 a2 a3 a4 a5 a6 l = .ok (pl_withYear l
      (let d := Model.lichunShift l.year l.solar.year (decide (a3 < 0)) (decide (a5 ≥ 0))
       let i := Model.lichunShift l.year l.solar.year (decide (a4 < 0)) (decide (a6 ≥ 0))
       ((l.year - 4) % 10, (l.year - 4) % 12, (l.year - 4 + d) % 10, (l.year - 4 + d) % 12,
        (l.year - 4 + i) % 10, (l.year - 4 + i) % 12))) := by
  have hd := Model.lichunShift_ge l.year l.solar.year (decide (a3 < 0)) (decide (a5 ≥ 0))
  have hi := Model.lichunShift_ge l.year l.solar.year (decide (a4 < 0)) (decide (a6 ≥ 0))
  rw [pl_year_split, pl_yPre_eq, pl_yAdj_eq, pl_yFix_eq]
  simp only []
  rw [pl_fix_tmod _ 10 (by omega), pl_fix_tmod _ 12 (by omega), pl_fix_tmod _ 10 (by omega), pl_fix_tmod _ 12 (by omega),
    Int.emod_add_emod, Int.emod_add_emod, Int.emod_add_emod, Int.emod_add_emod]
  rfl

def pl_toM (s : Solar) : Model.Solar := ⟨s.year, s.month, s.day, s.hour, s.minute, s.second⟩

/-- the `liChun` variable of the Go code after `if liChun.GetYear() != solarYear { liChun = … }` -/
def pl_liChunG (a1 a2 : Solar) (l : Lunar) : Solar := if a1.year ≠ l.solar.year then a2 else a1

theorem pl_liChun_agree (terms : List Model.Solar) (a1 a2 : Solar) (l : Lunar)
    (ha1 : pl_toM a1 = Model.termByName terms "立春") (ha2 : pl_toM a2 = Model.termByName terms "LI_CHUN") :
    pl_toM (pl_liChunG a1 a2 l) = Model.liChunOf (pl_toM l.solar) terms := by
  unfold pl_liChunG Model.liChunOf
  rw [← ha1, ← ha2]
  show pl_toM (if a1.year ≠ l.solar.year then a2 else a1) = if a1.year ≠ l.solar.year then pl_toM a2 else pl_toM a1
  split <;> rfl

theorem pl_decide_eq {p : Prop} [Decidable p] {b : Bool} (h : p ↔ b = true) : decide p = b := by
  cases b <;> simp_all

theorem computeYear_eq (terms : List Model.Solar) (a1 a2 : Solar) (a3 a4 a5 a6 : Int) (l : Lunar)
    (ha1 : pl_toM a1 = Model.termByName terms "立春")
    (ha2 : pl_toM a2 = Model.termByName terms "LI_CHUN")
    (ha3 : a3 < 0 ↔ Model.strLt (pl_toM l.solar).toYmd (pl_toM (pl_liChunG a1 a2 l)).toYmd = true)
    (ha4 : a4 < 0 ↔ Model.strLt (pl_toM l.solar).toYmdHms (pl_toM (pl_liChunG a1 a2 l)).toYmdHms = true)
    (ha5 : a5 ≥ 0 ↔ Model.strGe (pl_toM l.solar).toYmd (pl_toM (pl_liChunG a1 a2 l)).toYmd = true)
    (ha6 : a6 ≥ 0 ↔ Model.strGe (pl_toM l.solar).toYmdHms (pl_toM (pl_liChunG a1 a2 l)).toYmdHms = true) :
    calendar_computeYear a1 a2 a3 a4 a5 a6 l =
      .ok (pl_withYear l (Model.computeYear l.year (pl_toM l.solar) terms)) := by
  rw [pl_liChun_agree terms a1 a2 l ha1 ha2] at ha3 ha4 ha5 ha6
  rw [computeYear_raw, Model.computeYear_eq_shift, pl_decide_eq ha3, pl_decide_eq ha4, pl_decide_eq ha5,
    pl_decide_eq ha6]
  rfl

open Gen.Tables

abbrev pl_St := Solar × Solar × Int

def pl_mStep (c1 c2 : Int → Int) (e : Int → Solar) (k1 : Nat) (s : pl_St) : Except Err (ForInStep pl_St) :=
  if (decide (c1 (0 + 2 * (k1 : Int)) ≥ 0) && decide (c2 (0 + 2 * (k1 : Int)) < 0)) = true then
    pure (ForInStep.done (s.1, e (0 + 2 * (k1 : Int)), s.2.2))
  else pure (ForInStep.yield (e (0 + 2 * (k1 : Int)), e (0 + 2 * (k1 : Int)), s.2.2 + 1))

def pl_mBody (e : Int → Solar) (n : Int → Bool) (c1 c2 : Int → Int) (k1 : Nat) (s : pl_St) :
    Except Err (ForInStep pl_St) :=
  if n (0 + 2 * (k1 : Int)) = true then pl_mStep c1 c2 e k1 s else pl_mStep c1 c2 e k1 s

/-- one of the two passes of `computeMonth`, which differ only in their atoms, the year stem `g` they read and the
fields they write: the scan over the Jie entries (`«end»` is what the variable holds on entry), then the pillar
arithmetic; stem and branch go to the continuation `k`, with the final `«end»` -/
def pl_mPass (e : Int → Solar) (n : Int → Bool) (c1 c2 : Int → Int) («end» : Solar) (g : Int)
    (k : Solar → Int → Int → Except Err Lunar) : Except Err Lunar := do
  let __s ← forIn [0:16] ((default : Solar), «end», (-3 : Int)) (pl_mBody e n c1 c2)
  let index := __s.2.2
  let mut add : Int := 0
  if decide (index < 0) then
    add := 1
  let offset : Int := (Int.tmod (((Int.tmod (g + add) 5) + 1) * 2) 10)
  add := index
  if decide (add < 0) then
    add := (add + 10)
  let gan := Int.tmod (add + offset) 10
  add := index
  if decide (add < 0) then
    add := (add + 12)
  k __s.2.1 gan (Int.tmod (add + 2) 12)

theorem pl_month_split (a1 : Int → Solar) (a2 : Int → Bool) (a3 a4 : Int → Int) (a5 : Int → Solar) (a6 : Int → Bool) (a7 a8 : Int → Int) (l : Lunar) :
    calendar_computeMonth a1 a2 a3 a4 a5 a6 a7 a8 l =
      pl_mPass a1 a2 a3 a4 default l.yearGanIndexByLiChun fun en g z =>
        pl_mPass a5 a6 a7 a8 en l.yearGanIndexExact fun _ gE zE =>
          pure { l with monthGanIndex := g, monthZhiIndex := z, monthGanIndexExact := gE, monthZhiIndexExact := zE } := by
  rfl

def pl_scan (c : Nat → Bool) : Nat → Nat → Int → Int
  | 0, _, idx => idx
  | n + 1, k, idx => if c k then idx else pl_scan c n (k + 1) (idx + 1)

def pl_condG (c1 c2 : Int → Int) (k : Nat) : Bool := decide (c1 (2 * (k : Int)) ≥ 0) && decide (c2 (2 * (k : Int)) < 0)

theorem pl_mBody_eq (e : Int → Solar) (n : Int → Bool) (c1 c2 : Int → Int) (k : Nat) (s : pl_St) :
    pl_mBody e n c1 c2 k s =
      if pl_condG c1 c2 k then .ok (ForInStep.done (s.1, e (2 * (k : Int)), s.2.2))
      else .ok (ForInStep.yield (e (2 * (k : Int)), e (2 * (k : Int)), s.2.2 + 1)) := by
  unfold pl_mBody pl_mStep pl_condG
  simp only [Int.zero_add, ite_self]
  rfl

theorem pl_loop_list (e : Int → Solar) (n : Int → Bool) (c1 c2 : Int → Int) :
    ∀ (m k0 : Nat) (s : pl_St), ∃ st en,
      forIn (List.range' k0 m 1) s (pl_mBody e n c1 c2) =
        Except.ok (st, en, pl_scan (pl_condG c1 c2) m k0 s.2.2) := by
  intro m
  induction m with
  | zero => intro k0 s; exact ⟨s.1, s.2.1, rfl⟩
  | succ m ih =>
    intro k0 s
    rw [List.range'_succ, List.forIn_cons, pl_mBody_eq]
    unfold pl_scan
    by_cases hc : pl_condG c1 c2 k0 = true
    · simp only [hc, if_true]; exact ⟨_, _, rfl⟩
    · simp only [hc]
      exact ih (k0 + 1) (e (2 * (k0 : Int)), e (2 * (k0 : Int)), s.2.2 + 1)

theorem pl_loop_range (e : Int → Solar) (n : Int → Bool) (c1 c2 : Int → Int) (s : pl_St) : ∃ st en,
      forIn [0:16] s (pl_mBody e n c1 c2) = Except.ok (st, en, pl_scan (pl_condG c1 c2) 16 0 s.2.2) := by
  rw [Std.Legacy.Range.forIn_eq_forIn_range']
  exact pl_loop_list e n c1 c2 16 0 s

/-- the month pillar `(gan, zhi)` from the scan result, with Go's truncating `%` -/
def pl_pillarT (index yearGan : Int) : Int × Int :=
  (Int.tmod ((if index < 0 then index + 10 else index) +
      Int.tmod ((Int.tmod (yearGan + (if index < 0 then 1 else 0)) 5 + 1) * 2) 10) 10,
   Int.tmod ((if index < 0 then index + 12 else index) + 2) 12)

theorem pl_mPass_eq (e : Int → Solar) (n : Int → Bool) (c1 c2 : Int → Int) (en : Solar) (g : Int) :
    ∃ en', ∀ k : Solar → Int → Int → Except Err Lunar, pl_mPass e n c1 c2 en g k =
      k en' (pl_pillarT (pl_scan (pl_condG c1 c2) 16 0 (-3)) g).1 (pl_pillarT (pl_scan (pl_condG c1 c2) 16 0 (-3)) g).2 := by
  obtain ⟨st, en', h⟩ := pl_loop_range e n c1 c2 ((default : Solar), en, (-3 : Int))
  refine ⟨en', fun k => ?_⟩
  unfold pl_mPass pl_pillarT
  simp only [h, bind, Except.bind]
  by_cases h : pl_scan (pl_condG c1 c2) 16 0 (-3) < 0 <;> simp [h]

def pl_withMonth (l : Lunar) (r : Int × Int × Int × Int) : Lunar :=
  { l with monthGanIndex := r.1, monthZhiIndex := r.2.1, monthGanIndexExact := r.2.2.1,
           monthZhiIndexExact := r.2.2.2 }

/-- What the generated `computeMonth` computes, for ALL inputs and atom values (no hypotheses):
two scans `pl_scan` over `k = 0..15` (`i = 2k`) and the pillar arithmetic with Go's truncating `%`.
The atoms `a1 a2 a5 a6` (`lunar.jieQi[jie]`, `start != nil`) do not influence the result. -/
theorem computeMonth_raw (a1 : Int → Solar) (a2 : Int → Bool) (a3 a4 : Int → Int) (a5 : Int → Solar)
    (a6 : Int → Bool) (a7 a8 : Int → Int) (l : Lunar) :
    calendar_computeMonth a1 a2 a3 a4 a5 a6 a7 a8 l = .ok (pl_withMonth l
      ((pl_pillarT (pl_scan (pl_condG a3 a4) 16 0 (-3)) l.yearGanIndexByLiChun).1,
       (pl_pillarT (pl_scan (pl_condG a3 a4) 16 0 (-3)) l.yearGanIndexByLiChun).2,
       (pl_pillarT (pl_scan (pl_condG a7 a8) 16 0 (-3)) l.yearGanIndexExact).1,
       (pl_pillarT (pl_scan (pl_condG a7 a8) 16 0 (-3)) l.yearGanIndexExact).2)) := by
  obtain ⟨en, h⟩ := pl_mPass_eq a1 a2 a3 a4 default l.yearGanIndexByLiChun
  obtain ⟨en', h'⟩ := pl_mPass_eq a5 a6 a7 a8 en l.yearGanIndexExact
  rw [pl_month_split, h, h']
  rfl

theorem pl_scan_ge (c : Nat → Bool) : ∀ n k idx, idx ≤ pl_scan c n k idx := by
  intro n; induction n with
  | zero => intro k idx; exact Int.le_refl _
  | succ n ih =>
    intro k idx; unfold pl_scan; split
    · exact Int.le_refl _
    · have := ih (k + 1) (idx + 1); omega

/-- all arguments of the truncating `%` are non-negative here -/
theorem pl_pillar_agree (index yearGan : Int) (hi : -10 ≤ index) (hy : 0 ≤ yearGan) :
    pl_pillarT index yearGan = Model.monthPillarOf (index + 3) yearGan := by
  simp (disch := omega) only [pl_pillarT, Model.monthPillarOf, Int.tmod_eq_emod_of_nonneg, Int.add_sub_cancel]

/-- `lunar.jieQi[JIE_QI_IN_USE[i]]` as the model reads it -/
def pl_jieAt (terms : List Model.Solar) (i : Nat) : Model.Solar :=
  Model.termByName terms (calendar.JIE_QI_IN_USE.getD i "")

/-- the string `symd` / `stime` of the `k`-th iteration (`i = 2k`): the solar date itself in the first
iteration (`start == nil`), afterwards the rendering of the previous Jie entry -/
def pl_startKey (key : Model.Solar → List Char) (now : List Char) (terms : List Model.Solar) (k : Nat) : List Char :=
  if k = 0 then now else key (pl_jieAt terms (2 * (k - 1)))

theorem pl_scan_model (key : Model.Solar → List Char) (now : List Char) (terms : List Model.Solar) (c1 c2 : Int → Int)
    (h1 : ∀ k : Nat, k < 16 → (c1 (2 * (k : Int)) ≥ 0 ↔ Model.strGe now (pl_startKey key now terms k) = true))
    (h2 : ∀ k : Nat, k < 16 → (c2 (2 * (k : Int)) < 0 ↔ Model.strLt now (key (pl_jieAt terms (2 * k))) = true)) :
    ∀ (fuel k : Nat) (index : Int) (start : Option Model.Solar), fuel + k ≤ 16 →
      start = (if k = 0 then none else some (pl_jieAt terms (2 * (k - 1)))) →
      pl_scan (pl_condG c1 c2) fuel k index = Model.monthScan key now terms fuel (2 * k) start index := by
  intro fuel
  induction fuel with
  | zero => intro k index start _ _; rfl
  | succ fuel ih =>
    intro k index start hk hstart
    have hlt : ¬ (2 * k ≥ calendar.JIE_QI_IN_USE.length) := by rw [Model.names_len.1]; omega
    unfold Model.monthScan pl_scan
    rw [ih (k + 1) (index + 1) (some (pl_jieAt terms (2 * k))) (by omega) (by simp), pl_condG,
      pl_decide_eq (h1 k (by omega)), pl_decide_eq (h2 k (by omega)), pl_startKey, if_neg hlt]
    by_cases hk0 : k = 0 <;> simp only [hstart, hk0, if_true, if_false] <;> rfl

theorem computeMonth_eq (terms : List Model.Solar) (a1 : Int → Solar) (a2 : Int → Bool) (a3 a4 : Int → Int)
    (a5 : Int → Solar) (a6 : Int → Bool) (a7 a8 : Int → Int) (l : Lunar)
    (hgL : 0 ≤ l.yearGanIndexByLiChun) (hgE : 0 ≤ l.yearGanIndexExact)
    (ha3 : ∀ k : Nat, k < 16 → (a3 (2 * (k : Int)) ≥ 0 ↔
      Model.strGe (pl_toM l.solar).toYmd (pl_startKey Model.Solar.toYmd (pl_toM l.solar).toYmd terms k) = true))
    (ha4 : ∀ k : Nat, k < 16 → (a4 (2 * (k : Int)) < 0 ↔
      Model.strLt (pl_toM l.solar).toYmd (pl_jieAt terms (2 * k)).toYmd = true))
    (ha7 : ∀ k : Nat, k < 16 → (a7 (2 * (k : Int)) ≥ 0 ↔
      Model.strGe (pl_toM l.solar).toYmdHms (pl_startKey Model.Solar.toYmdHms (pl_toM l.solar).toYmdHms terms k) = true))
    (ha8 : ∀ k : Nat, k < 16 → (a8 (2 * (k : Int)) < 0 ↔
      Model.strLt (pl_toM l.solar).toYmdHms (pl_jieAt terms (2 * k)).toYmdHms = true)) :
    calendar_computeMonth a1 a2 a3 a4 a5 a6 a7 a8 l =
      .ok (pl_withMonth l (Model.computeMonth (pl_toM l.solar) terms l.yearGanIndexByLiChun l.yearGanIndexExact)) := by
  have b1 := pl_scan_ge (pl_condG a3 a4) 16 0 (-3)
  have b2 := pl_scan_ge (pl_condG a7 a8) 16 0 (-3)
  rw [computeMonth_raw, Model.computeMonth_eq, pl_pillar_agree _ _ (by omega) hgL, pl_pillar_agree _ _ (by omega) hgE,
    pl_scan_model _ _ terms a3 a4 ha3 ha4 16 0 (-3) none (by omega) rfl,
    pl_scan_model _ _ terms a7 a8 ha7 ha8 16 0 (-3) none (by omega) rfl]

theorem pl_newSolar_noon (y m d : Int) :
    calendar_NewSolar y m d 12 0 0 =
      if Model.validYmd y m d then .ok ⟨y, m, d, 12, 0, 0⟩ else .error .panic := by
  rw [newSolar_eq, Model.newSolar, show Model.validHms 12 0 0 = true from rfl, Bool.and_true]
  cases Model.validYmd y m d <;> rfl

/-- the six day-pillar values with Go's truncating `%`, from `offset` and the "late hour" flag -/
def pl_dayT (offset : Int) (late : Bool) : Int × Int × Int × Int × Int × Int :=
  (Int.tmod offset 10, Int.tmod offset 12,
   if late then (if Int.tmod offset 10 + 1 ≥ 10 then Int.tmod offset 10 + 1 - 10 else Int.tmod offset 10 + 1)
     else Int.tmod offset 10,
   if late then (if Int.tmod offset 12 + 1 ≥ 12 then Int.tmod offset 12 + 1 - 12 else Int.tmod offset 12 + 1)
     else Int.tmod offset 12,
   Int.tmod offset 10, Int.tmod offset 12)

/-- `l` with the six day-pillar fields replaced (order of `Model.computeDay`'s result) -/
def pl_withDay (l : Lunar) (r : Int × Int × Int × Int × Int × Int) : Lunar :=
  { l with dayGanIndex := r.1, dayZhiIndex := r.2.1, dayGanIndexExact := r.2.2.1,
           dayZhiIndexExact := r.2.2.2.1, dayGanIndexExact2 := r.2.2.2.2.1,
           dayZhiIndexExact2 := r.2.2.2.2.2 }

/-- What the generated `computeDay` does for ALL inputs: panics iff the solar date is not a valid
`NewSolar` date (receiver invariant), otherwise writes `pl_dayT`. -/
theorem computeDay_raw (a1 a2 a3 : Int) (l : Lunar) :
    calendar_computeDay a1 a2 a3 l =
      if Model.validYmd l.solar.year l.solar.month l.solar.day
      then .ok (pl_withDay l (pl_dayT a1 (decide (a2 ≥ 0) && decide (a3 ≤ 0))))
      else .error .panic := by
  unfold calendar_computeDay
  simp only [calendar_Solar_GetYear, calendar_Solar_GetMonth, calendar_Solar_GetDay, bind, Except.bind,
    pure, Except.pure, pl_newSolar_noon]
  cases hv : Model.validYmd l.solar.year l.solar.month l.solar.day
  · rfl
  · simp only [if_true, pl_dayT, pl_withDay]
    cases hl : (decide (a2 ≥ 0) && decide (a3 ≤ 0))
    · rfl
    · by_cases h10 : Int.tmod a1 10 + 1 ≥ 10 <;> by_cases h12 : Int.tmod a1 12 + 1 ≥ 12 <;>
        simp only [h10, h12, decide_true, decide_false, if_true, if_false] <;> rfl

theorem computeDay_eq (a1 a2 a3 : Int) (l : Lunar)
    (hv : Model.validYmd l.solar.year l.solar.month l.solar.day = true)
    (ha1 : a1 = Model.jdn l.solar.year l.solar.month l.solar.day - 11)
    (h0 : 11 ≤ Model.jdn l.solar.year l.solar.month l.solar.day)
    (ha2 : a2 ≥ 0 ↔ Model.strGe (Model.fmtHm l.hour l.minute) ['2', '3', ':', '0', '0'] = true)
    (ha3 : a3 ≤ 0 ↔ Model.strLe (Model.fmtHm l.hour l.minute) ['2', '3', ':', '5', '9'] = true) :
    calendar_computeDay a1 a2 a3 l =
      .ok (pl_withDay l (Model.computeDay (pl_toM l.solar) l.hour l.minute)) := by
  rw [computeDay_raw, hv, if_pos rfl]
  congr 2
  unfold pl_dayT Model.computeDay
  rw [pl_decide_eq ha2, pl_decide_eq ha3, Int.tmod_eq_emod_of_nonneg (by omega), Int.tmod_eq_emod_of_nonneg (by omega),
    ha1]
  rfl

/-- outside the receiver invariant the Go code panics (in `NewSolar`); `Model.computeDay` is total -/
theorem computeDay_panic (a1 a2 a3 : Int) (l : Lunar)
    (hv : Model.validYmd l.solar.year l.solar.month l.solar.day = false) :
    calendar_computeDay a1 a2 a3 l = .error .panic := by
  rw [computeDay_raw, hv]; rfl

theorem pl_timeZhiScan_nonneg (hm : List Char) : ∀ fuel i x, 0 ≤ x → 0 ≤ Model.timeZhiScan hm fuel i x := by
  intro fuel
  induction fuel with
  | zero => intro i x _; exact Int.le_refl 0
  | succ fuel ih =>
    intro i x hx
    unfold Model.timeZhiScan
    split
    · exact Int.le_refl 0
    · split
      · exact hx
      · exact ih _ _ (by omega)

theorem pl_timeZhi_nonneg (h mi : Int) : 0 ≤ Model.timeZhiIndexOf h mi :=
  pl_timeZhiScan_nonneg _ _ _ _ (by decide)

/-- What the generated `computeTime` does for all inputs. -/
theorem computeTime_raw (a1 : Int) (l : Lunar) :
    calendar_computeTime a1 l = .ok { l with
      timeZhiIndex := a1,
      timeGanIndex := Int.tmod (Int.tmod l.dayGanIndexExact 5 * 2 + a1) 10 } := rfl

/-- `computeTime` against the model: `timeZhiIndex` is the atom (`LunarUtil.GetTimeZhiIndex` on `"%02d:%02d"`,
modelled by `Model.timeZhiIndexOf`), `timeGanIndex` is the formula of `Model.computeAll`. The guard
`0 ≤ dayGanIndexExact` holds after `computeDay` on every date with `jdn ≥ 11`. -/
theorem computeTime_eq (a1 : Int) (l : Lunar)
    (ha1 : a1 = Model.timeZhiIndexOf l.hour l.minute) (hd : 0 ≤ l.dayGanIndexExact) :
    calendar_computeTime a1 l = .ok { l with
      timeZhiIndex := Model.timeZhiIndexOf l.hour l.minute,
      timeGanIndex := (l.dayGanIndexExact % 5 * 2 + Model.timeZhiIndexOf l.hour l.minute) % 10 } := by
  have hz := pl_timeZhi_nonneg l.hour l.minute
  rw [computeTime_raw, ha1, Int.tmod_eq_emod_of_nonneg hd, Int.tmod_eq_emod_of_nonneg (by omega)]

/-- `computeWeek`: the atom is `lunar.solar.GetWeek()` (= `Model.Solar.week`, as in `Model.computeAll`). -/
theorem computeWeek_eq (a1 : Int) (l : Lunar) :
    calendar_computeWeek a1 l = .ok { l with weekIndex := a1 } := rfl

theorem computeWeek_model (a1 : Int) (l : Lunar) (ha1 : a1 = (pl_toM l.solar).week) :
    calendar_computeWeek a1 l = .ok { l with weekIndex := (pl_toM l.solar).week } := by
  rw [computeWeek_eq, ha1]

/-- `a` is a possible value of Go's `strings.Compare(x, y)`: only its sign is specified. -/
def pl_CmpSpec (a : Int) (x y : List Char) : Prop :=
  (a < 0 ↔ Model.cmpChars x y = .lt) ∧ (0 < a ↔ Model.cmpChars x y = .gt)

/-- Go's `strings.Compare` on the model's strings (-1 / 0 / +1) -/
def pl_goCmp (x y : List Char) : Int :=
  match Model.cmpChars x y with
  | .lt => -1
  | .eq => 0
  | .gt => 1

theorem pl_goCmp_spec (x y : List Char) : pl_CmpSpec (pl_goCmp x y) x y := by
  unfold pl_CmpSpec pl_goCmp
  cases Model.cmpChars x y <;> simp

theorem pl_CmpSpec.lt {a : Int} {x y : List Char} (h : pl_CmpSpec a x y) : a < 0 ↔ Model.strLt x y = true := by
  unfold Model.strLt; rw [h.1]; cases Model.cmpChars x y <;> decide

theorem pl_CmpSpec.ge {a : Int} {x y : List Char} (h : pl_CmpSpec a x y) : a ≥ 0 ↔ Model.strGe x y = true := by
  unfold Model.strGe
  have h1 := h.1
  cases hc : Model.cmpChars x y <;> rw [hc] at h1 <;> simp at h1 ⊢ <;> omega

theorem pl_CmpSpec.le {a : Int} {x y : List Char} (h : pl_CmpSpec a x y) : a ≤ 0 ↔ Model.strLe x y = true := by
  unfold Model.strLe
  have h2 := h.2
  cases hc : Model.cmpChars x y <;> rw [hc] at h2 <;> simp at h2 ⊢ <;> omega

/-- `computeYear` with the four `strings.Compare` atoms bound by `pl_CmpSpec` (the two textual
occurrences `a3`/`a5` and `a4`/`a6` compare the same pair of strings). -/
theorem computeYear_eq_cmp (terms : List Model.Solar) (a1 a2 : Solar) (a3 a4 a5 a6 : Int) (l : Lunar)
    (ha1 : pl_toM a1 = Model.termByName terms "立春")
    (ha2 : pl_toM a2 = Model.termByName terms "LI_CHUN")
    (ha3 : pl_CmpSpec a3 (pl_toM l.solar).toYmd (pl_toM (pl_liChunG a1 a2 l)).toYmd)
    (ha4 : pl_CmpSpec a4 (pl_toM l.solar).toYmdHms (pl_toM (pl_liChunG a1 a2 l)).toYmdHms)
    (ha5 : pl_CmpSpec a5 (pl_toM l.solar).toYmd (pl_toM (pl_liChunG a1 a2 l)).toYmd)
    (ha6 : pl_CmpSpec a6 (pl_toM l.solar).toYmdHms (pl_toM (pl_liChunG a1 a2 l)).toYmdHms) :
    calendar_computeYear a1 a2 a3 a4 a5 a6 l =
      .ok (pl_withYear l (Model.computeYear l.year (pl_toM l.solar) terms)) :=
  computeYear_eq terms a1 a2 a3 a4 a5 a6 l ha1 ha2 ha3.lt ha4.lt ha5.ge ha6.ge

theorem computeMonth_eq_cmp (terms : List Model.Solar) (a1 : Int → Solar) (a2 : Int → Bool) (a3 a4 : Int → Int)
    (a5 : Int → Solar) (a6 : Int → Bool) (a7 a8 : Int → Int) (l : Lunar)
    (hgL : 0 ≤ l.yearGanIndexByLiChun) (hgE : 0 ≤ l.yearGanIndexExact)
    (ha3 : ∀ k : Nat, k < 16 → pl_CmpSpec (a3 (2 * (k : Int))) (pl_toM l.solar).toYmd
      (pl_startKey Model.Solar.toYmd (pl_toM l.solar).toYmd terms k))
    (ha4 : ∀ k : Nat, k < 16 → pl_CmpSpec (a4 (2 * (k : Int))) (pl_toM l.solar).toYmd
      (pl_jieAt terms (2 * k)).toYmd)
    (ha7 : ∀ k : Nat, k < 16 → pl_CmpSpec (a7 (2 * (k : Int))) (pl_toM l.solar).toYmdHms
      (pl_startKey Model.Solar.toYmdHms (pl_toM l.solar).toYmdHms terms k))
    (ha8 : ∀ k : Nat, k < 16 → pl_CmpSpec (a8 (2 * (k : Int))) (pl_toM l.solar).toYmdHms
      (pl_jieAt terms (2 * k)).toYmdHms) :
    calendar_computeMonth a1 a2 a3 a4 a5 a6 a7 a8 l =
      .ok (pl_withMonth l (Model.computeMonth (pl_toM l.solar) terms l.yearGanIndexByLiChun l.yearGanIndexExact)) :=
  computeMonth_eq terms a1 a2 a3 a4 a5 a6 a7 a8 l hgL hgE
    (fun k hk => (ha3 k hk).ge) (fun k hk => (ha4 k hk).lt) (fun k hk => (ha7 k hk).ge) (fun k hk => (ha8 k hk).lt)

theorem computeDay_eq_cmp (a1 a2 a3 : Int) (l : Lunar)
    (hv : Model.validYmd l.solar.year l.solar.month l.solar.day = true)
    (ha1 : a1 = Model.jdn l.solar.year l.solar.month l.solar.day - 11)
    (h0 : 11 ≤ Model.jdn l.solar.year l.solar.month l.solar.day)
    (ha2 : pl_CmpSpec a2 (Model.fmtHm l.hour l.minute) ['2', '3', ':', '0', '0'])
    (ha3 : pl_CmpSpec a3 (Model.fmtHm l.hour l.minute) ['2', '3', ':', '5', '9']) :
    calendar_computeDay a1 a2 a3 l =
      .ok (pl_withDay l (Model.computeDay (pl_toM l.solar) l.hour l.minute)) :=
  computeDay_eq a1 a2 a3 l hv ha1 h0 ha2.ge ha3.le

/-- the Go struct image of a model `Lunar` (the fields `Gen.Fn.Lunar` has), keeping `eightChar` -/
def pl_ofLunar (m : Model.Lunar) (s : Solar) (ec : EightChar) : Lunar :=
  { year := m.year, month := m.month, day := m.day, hour := m.hour, minute := m.minute, second := m.second,
    yearGanIndex := m.yearGanIndex, yearZhiIndex := m.yearZhiIndex,
    yearGanIndexByLiChun := m.yearGanIndexByLiChun, yearZhiIndexByLiChun := m.yearZhiIndexByLiChun,
    yearGanIndexExact := m.yearGanIndexExact, yearZhiIndexExact := m.yearZhiIndexExact,
    monthGanIndex := m.monthGanIndex, monthZhiIndex := m.monthZhiIndex,
    monthGanIndexExact := m.monthGanIndexExact, monthZhiIndexExact := m.monthZhiIndexExact,
    dayGanIndex := m.dayGanIndex, dayZhiIndex := m.dayZhiIndex,
    dayGanIndexExact := m.dayGanIndexExact, dayZhiIndexExact := m.dayZhiIndexExact,
    dayGanIndexExact2 := m.dayGanIndexExact2, dayZhiIndexExact2 := m.dayZhiIndexExact2,
    timeGanIndex := m.timeGanIndex, timeZhiIndex := m.timeZhiIndex, weekIndex := m.weekIndex,
    solar := s, eightChar := ec }

/-- Go's `compute` runs computeYear, computeMonth, computeDay, computeTime, computeWeek in this order
(after `computeJieQi`, which fills the term table `ya.terms`). With every atom bound to its meaning on the
INPUT struct `l` (the steps only read `year`, `hour`, `minute`, `solar` and pillar fields written by
earlier steps), the sequence returns exactly the fields of `Model.computeAll`. -/
theorem compute_steps_eq (ya : Model.YearAstro)
    (y1 y2 : Solar) (y3 y4 y5 y6 : Int)
    (m1 : Int → Solar) (m2 : Int → Bool) (m3 m4 : Int → Int) (m5 : Int → Solar) (m6 : Int → Bool) (m7 m8 : Int → Int)
    (d1 d2 d3 t1 w1 : Int) (l : Lunar)
    (hv : Model.validYmd l.solar.year l.solar.month l.solar.day = true)
    (h0 : 11 ≤ Model.jdn l.solar.year l.solar.month l.solar.day)
    (hy1 : pl_toM y1 = Model.termByName ya.terms "立春")
    (hy2 : pl_toM y2 = Model.termByName ya.terms "LI_CHUN")
    (hy3 : pl_CmpSpec y3 (pl_toM l.solar).toYmd (pl_toM (pl_liChunG y1 y2 l)).toYmd)
    (hy4 : pl_CmpSpec y4 (pl_toM l.solar).toYmdHms (pl_toM (pl_liChunG y1 y2 l)).toYmdHms)
    (hy5 : pl_CmpSpec y5 (pl_toM l.solar).toYmd (pl_toM (pl_liChunG y1 y2 l)).toYmd)
    (hy6 : pl_CmpSpec y6 (pl_toM l.solar).toYmdHms (pl_toM (pl_liChunG y1 y2 l)).toYmdHms)
    (hm3 : ∀ k : Nat, k < 16 → pl_CmpSpec (m3 (2 * (k : Int))) (pl_toM l.solar).toYmd
      (pl_startKey Model.Solar.toYmd (pl_toM l.solar).toYmd ya.terms k))
    (hm4 : ∀ k : Nat, k < 16 → pl_CmpSpec (m4 (2 * (k : Int))) (pl_toM l.solar).toYmd
      (pl_jieAt ya.terms (2 * k)).toYmd)
    (hm7 : ∀ k : Nat, k < 16 → pl_CmpSpec (m7 (2 * (k : Int))) (pl_toM l.solar).toYmdHms
      (pl_startKey Model.Solar.toYmdHms (pl_toM l.solar).toYmdHms ya.terms k))
    (hm8 : ∀ k : Nat, k < 16 → pl_CmpSpec (m8 (2 * (k : Int))) (pl_toM l.solar).toYmdHms
      (pl_jieAt ya.terms (2 * k)).toYmdHms)
    (hd1 : d1 = Model.jdn l.solar.year l.solar.month l.solar.day - 11)
    (hd2 : pl_CmpSpec d2 (Model.fmtHm l.hour l.minute) ['2', '3', ':', '0', '0'])
    (hd3 : pl_CmpSpec d3 (Model.fmtHm l.hour l.minute) ['2', '3', ':', '5', '9'])
    (ht1 : t1 = Model.timeZhiIndexOf l.hour l.minute)
    (hw1 : w1 = (pl_toM l.solar).week) :
    (do let l1 ← calendar_computeYear y1 y2 y3 y4 y5 y6 l
        let l2 ← calendar_computeMonth m1 m2 m3 m4 m5 m6 m7 m8 l1
        let l3 ← calendar_computeDay d1 d2 d3 l2
        let l4 ← calendar_computeTime t1 l3
        calendar_computeWeek w1 l4) =
      .ok (pl_ofLunar (Model.computeAll l.year l.month l.day l.hour l.minute l.second (pl_toM l.solar) ya)
            l.solar l.eightChar) := by
  have e1 := computeYear_eq_cmp ya.terms y1 y2 y3 y4 y5 y6 l hy1 hy2 hy3 hy4 hy5 hy6
  -- the stems the later steps read are residues, hence non-negative
  have hn : 0 ≤ (Model.computeYear l.year (pl_toM l.solar) ya.terms).2.2.1 ∧
      0 ≤ (Model.computeYear l.year (pl_toM l.solar) ya.terms).2.2.2.2.1 := by
    rw [Model.computeYear_eq_shift]
    exact ⟨Int.emod_nonneg _ (by decide), Int.emod_nonneg _ (by decide)⟩
  generalize hr1 : Model.computeYear l.year (pl_toM l.solar) ya.terms = r1 at e1 hn
  have e2 : calendar_computeMonth m1 m2 m3 m4 m5 m6 m7 m8 (pl_withYear l r1) =
      .ok (pl_withMonth (pl_withYear l r1) (Model.computeMonth (pl_toM l.solar) ya.terms r1.2.2.1 r1.2.2.2.2.1)) :=
    computeMonth_eq_cmp ya.terms m1 m2 m3 m4 m5 m6 m7 m8 (pl_withYear l r1) hn.1 hn.2 hm3 hm4 hm7 hm8
  generalize hr2 : Model.computeMonth (pl_toM l.solar) ya.terms r1.2.2.1 r1.2.2.2.2.1 = r2 at e2
  have e3 : calendar_computeDay d1 d2 d3 (pl_withMonth (pl_withYear l r1) r2) =
      .ok (pl_withDay (pl_withMonth (pl_withYear l r1) r2) (Model.computeDay (pl_toM l.solar) l.hour l.minute)) :=
    computeDay_eq_cmp d1 d2 d3 (pl_withMonth (pl_withYear l r1) r2) hv hd1 h0 hd2 hd3
  have hdn : 0 ≤ (Model.computeDay (pl_toM l.solar) l.hour l.minute).2.2.1 := by
    rw [Model.computeDay_eq_mod]
    exact Int.emod_nonneg _ (by decide)
  generalize hr3 : Model.computeDay (pl_toM l.solar) l.hour l.minute = r3 at e3 hdn
  have e4 : calendar_computeTime t1 (pl_withDay (pl_withMonth (pl_withYear l r1) r2) r3) =
      .ok { pl_withDay (pl_withMonth (pl_withYear l r1) r2) r3 with
        timeZhiIndex := Model.timeZhiIndexOf l.hour l.minute,
        timeGanIndex := (r3.2.2.1 % 5 * 2 + Model.timeZhiIndexOf l.hour l.minute) % 10 } :=
    computeTime_eq t1 (pl_withDay (pl_withMonth (pl_withYear l r1) r2) r3) ht1 hdn
  simp only [bind, Except.bind, e1, e2, e3, e4, computeWeek_eq, hw1]
  obtain ⟨yg, yz, ygL, yzL, ygE, yzE⟩ := r1
  obtain ⟨mg, mz, mgE, mzE⟩ := r2
  obtain ⟨dg, dz, dgE, dzE, dg2, dz2⟩ := r3
  simp only [] at hr2
  unfold Model.computeAll
  simp only [hr1, hr2, hr3]
  rfl

/-! ## DISAGREEMENT (outside the guard `11 ≤ jdn`, i.e. before 12 January 4713 BC = year -4712)

`Model.computeDay` takes `offset % 10` / `offset % 12` with Lean's Euclidean `%`; the Go code uses the
truncating `%` WITHOUT the `if x < 0 { x += m }` fix-up that `computeYear` has.  For `offset < 0`
(`jdn < 11`) the two differ: on -4712-01-01 (`jdn = 0`, `offset = -11`) Go writes
`dayGanIndex = -1`, `dayZhiIndex = -11`; the model says `9`, `1`.  (Civil years 1..9999, the domain of the
registered properties, all have `jdn ≥ 1721424`, so no registered property is affected.) -/

def pl_cexLunar : Lunar := { (default : Lunar) with solar := ⟨-4712, 1, 1, 0, 0, 0⟩ }

theorem computeDay_disagree :
    Model.validYmd (-4712) 1 1 = true ∧ Model.jdn (-4712) 1 1 - 11 = -11 ∧
    calendar_computeDay (-11) (-1) (-1) pl_cexLunar =
      .ok (pl_withDay pl_cexLunar (-1, -11, -1, -11, -1, -11)) ∧
    Model.computeDay (pl_toM pl_cexLunar.solar) 0 0 = (9, 1, 9, 1, 9, 1) := by
  refine ⟨by decide, by decide, ?_, by decide⟩
  rw [computeDay_raw]; rfl

#eval calendar_computeDay (-11) (-1) (-1) pl_cexLunar |>.toOption |>.map fun l =>
  (l.dayGanIndex, l.dayZhiIndex, l.dayGanIndexExact, l.dayZhiIndexExact, l.dayGanIndexExact2, l.dayZhiIndexExact2)
#eval Model.computeDay (pl_toM pl_cexLunar.solar) 0 0

section Axioms
#print axioms computeYear_eq
#print axioms computeYear_eq_cmp
#print axioms computeMonth_raw
#print axioms computeMonth_eq
#print axioms computeMonth_eq_cmp
#print axioms computeDay_raw
#print axioms computeDay_eq
#print axioms computeDay_eq_cmp
#print axioms computeDay_panic
#print axioms computeDay_disagree
#print axioms computeTime_raw
#print axioms computeTime_eq
#print axioms computeWeek_eq
#print axioms computeWeek_model
#print axioms compute_steps_eq
end Axioms

end FnEq
