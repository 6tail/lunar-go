/-
Proofs.FnWeekNext — the generated `SolarWeek.Next` equals `Model.SolarWeek.next`: the plain case directly, the
month-separated case by `nx_sep_forIn`, which lets any fuel-bounded translated loop body that performs one
`nx_sepStep` of the model per iteration compute `Model.nextSepLoop`. Helpers carry the prefix `nx_`.
-/
import Proofs.FnCivil2
import Proofs.FnWeek

namespace FnEq
open Gen.Fn

/-- `weeks = 0`: a copy of the receiver (no validation, no fuel; the model returns the receiver). -/
theorem solarWeekNext_zero (fuel : Nat) (a1 : Int → Int) (a2 : Int → Gen.Fn.Solar) (a3 : Int → Int) (a4 : Int → Gen.Fn.Solar)
    (w : Gen.Fn.SolarWeek) (sep : Bool) :
    Gen.Fn.calendar_SolarWeek_Next fuel a1 a2 a3 a4 w 0 sep =
      (match (mi_weekToM w).next 0 sep with | some r => .ok (mi_weekOfM r) | none => .error .panic) := by
  rfl

/-- `separateMonth = false`: the week of `NewSolarFromYmd(y, m, d).NextDay(7·weeks)`. -/
theorem solarWeekNext_eq_false (fuel : Nat) (a1 : Int → Int) (a2 : Int → Gen.Fn.Solar) (a3 : Int → Int) (a4 : Int → Gen.Fn.Solar)
    (w : Gen.Fn.SolarWeek) (weeks : Int) (hf : (weeks * 7).natAbs + 2 ≤ fuel) :
    Gen.Fn.calendar_SolarWeek_Next fuel a1 a2 a3 a4 w weeks false =
      (match (mi_weekToM w).next weeks false with
        | some r => .ok (mi_weekOfM r) | none => .error .panic) := by
  by_cases h0 : weeks = 0
  · subst h0; exact solarWeekNext_zero fuel a1 a2 a3 a4 w false
  · have h0' : ¬ 0 = weeks := fun e => h0 e.symm
    simp only [Gen.Fn.calendar_SolarWeek_Next, h0', decide_false, Bool.false_eq_true, if_false,
      Model.SolarWeek.next, if_neg h0, newSolarFromYmd_eq, mi_weekToM]
    cases hc : Model.newSolarYmd w.year w.month w.day with
    | none => rfl
    | some c =>
      have hv := (mi_newSolarYmd_some _ _ _ _ hc).2
      simp only [c1_ok_bind, solarNextDay_eq fuel (ofM c) (weeks * 7) (by simpa using hv) hf, toM_ofM]
      cases c.nextDay (weeks * 7) with
      | none => rfl
      | some c1 => rfl

/-- One iteration of `Model.nextSepLoop` as a function of the loop state `(c, month)` (the current
`week` is overwritten before it is read): the new `(c, week, month)`; `none` = panic. -/
def nx_sepStep (start : Int) (plus : Bool) (c : Model.Solar) (month : Int) :
    Option (Model.Solar × Model.SolarWeek × Int) :=
  match c.nextDay (if plus then 7 else -7) with
  | none => none
  | some c1 =>
    let week := Model.weekOf c1 start
    if month ≠ week.month then
      if plus then
        if week.index = 1 then
          match week.firstDay with
          | none => none
          | some fd => some (c1, Model.weekOf fd start, (Model.weekOf fd start).month)
        else
          match Model.newSolarYmd week.year week.month 1 with
          | none => none
          | some c2 => some (c2, Model.weekOf c2 start, week.month)
      else
        if Model.weeksOfMonth week.year week.month start = week.index then
          match week.firstDay with
          | none => none
          | some fd =>
            match fd.nextDay 6 with
            | none => none
            | some ld => some (c1, Model.weekOf ld start, (Model.weekOf ld start).month)
        else
          match (Model.newSolarYmd week.year week.month 1).bind
              (fun f => f.nextDay (Model.daysOfMonth week.year week.month - 1)) with
          | none => none
          | some c2 => some (c2, Model.weekOf c2 start, week.month)
    else some (c1, week, month)

theorem nx_sepLoop_step (start : Int) (plus : Bool) (k : Nat) (c : Model.Solar) (w : Model.SolarWeek)
    (month : Int) :
    Model.nextSepLoop start plus (k + 1) c w month =
      (match nx_sepStep start plus c month with
        | none => none
        | some st => Model.nextSepLoop start plus k st.1 st.2.1 st.2.2) := by
  rw [Model.nextSepLoop, nx_sepStep]
  cases c.nextDay (if plus then 7 else -7) with
  | none => rfl
  | some c1 =>
    dsimp only
    by_cases hm : month ≠ (Model.weekOf c1 start).month
    · rw [if_pos hm, if_pos hm]
      cases plus with
      | true =>
        simp only [if_true]
        by_cases hi : (Model.weekOf c1 start).index = 1
        · rw [if_pos hi, if_pos hi]
          cases (Model.weekOf c1 start).firstDay <;> rfl
        · rw [if_neg hi, if_neg hi]
          cases Model.newSolarYmd (Model.weekOf c1 start).year (Model.weekOf c1 start).month 1 <;> rfl
      | false =>
        simp only [Bool.false_eq_true, if_false]
        by_cases hi : Model.weeksOfMonth (Model.weekOf c1 start).year (Model.weekOf c1 start).month start
            = (Model.weekOf c1 start).index
        · rw [if_pos hi, if_pos hi]
          cases (Model.weekOf c1 start).firstDay with
          | none => rfl
          | some fd =>
            dsimp only
            cases fd.nextDay 6 <;> rfl
        · rw [if_neg hi, if_neg hi]
          cases (Model.newSolarYmd (Model.weekOf c1 start).year (Model.weekOf c1 start).month 1).bind
              (fun f => f.nextDay (Model.daysOfMonth (Model.weekOf c1 start).year
                (Model.weekOf c1 start).month - 1)) <;> rfl
    · rw [if_neg hm, if_neg hm]

/-- Meaning of the atoms of one iteration of the `weeks > 0` loop whose state is `(c, month)`:
when the month changes at `c1 = c.NextDay(7)`, `i` (atom `week.GetIndex()`) is the model's index of
the week of `c1`, and if that index is 1, `fd` (atom `week.GetFirstDay()`) is the model's first day
of that week (in particular `GetFirstDay` did not panic). -/
def nx_atomsP (start : Int) (c : Model.Solar) (month : Int) (i : Int) (fd : Gen.Fn.Solar) : Prop :=
  ∀ c1, c.nextDay 7 = some c1 → month ≠ c1.month →
    i = (Model.weekOf c1 start).index ∧
    ((Model.weekOf c1 start).index = 1 → (Model.weekOf c1 start).firstDay = some (toM fd))

/-- The same for the `weeks < 0` loop: `i` = `week.GetIndex()`, `wom` =
`SolarUtil.GetWeeksOfMonth(week.year, week.month, start)`, and, if these are equal, `fd` =
`week.GetFirstDay()`. -/
def nx_atomsM (start : Int) (c : Model.Solar) (month : Int) (i wom : Int) (fd : Gen.Fn.Solar) : Prop :=
  ∀ c1, c.nextDay (-7) = some c1 → month ≠ c1.month →
    i = (Model.weekOf c1 start).index ∧ wom = Model.weeksOfMonth c1.year c1.month start ∧
    (Model.weeksOfMonth c1.year c1.month start = (Model.weekOf c1 start).index →
      (Model.weekOf c1 start).firstDay = some (toM fd))

theorem nx_firstDay_valid (w : Model.SolarWeek) (fd : Model.Solar) (h : w.firstDay = some fd) :
    fd.valid = true := by
  unfold Model.SolarWeek.firstDay at h
  cases hc : Model.newSolarYmd w.year w.month w.day with
  | none => rw [hc] at h; cases h
  | some c => rw [hc] at h; exact c2_nextDay_valid _ _ _ h

/-- the model's loop state `(c, week, month)` after `k` iterations (`none` = a panic on the way) -/
def nx_sepIter (start : Int) (plus : Bool) :
    Nat → Model.Solar × Model.SolarWeek × Int → Option (Model.Solar × Model.SolarWeek × Int)
  | 0, st => some st
  | k + 1, st => (nx_sepStep start plus st.1 st.2.2).bind (nx_sepIter start plus k)

theorem nx_sepStep_valid (start : Int) (plus : Bool) (c : Model.Solar) (month : Int)
    (st : Model.Solar × Model.SolarWeek × Int) (h : nx_sepStep start plus c month = some st) :
    st.1.valid = true := by
  unfold nx_sepStep at h
  cases ho : c.nextDay (if plus then 7 else -7) with
  | none => rw [ho] at h; cases h
  | some c1 =>
    rw [ho] at h
    have hv1 := c2_nextDay_valid _ _ _ ho
    dsimp only at h
    split at h
    · split at h
      · split at h
        · split at h
          · cases h
          · injection h with h; subst h; exact hv1
        · split at h
          · cases h
          · rename_i c2 hc
            injection h with h; subst h; exact (mi_newSolarYmd_some _ _ _ _ hc).2
      · split at h
        · split at h
          · cases h
          · split at h
            · cases h
            · injection h with h; subst h; exact hv1
        · split at h
          · cases h
          · rename_i c2 hc
            injection h with h; subst h
            cases hn : Model.newSolarYmd (Model.weekOf c1 start).year (Model.weekOf c1 start).month 1 with
            | none => rw [hn] at hc; cases hc
            | some f => rw [hn] at hc; exact c2_nextDay_valid _ _ _ hc
    · injection h with h; subst h; exact hv1

/-- state of the translated loop: `(c, n, week, month, done)` -/
abbrev nx_WSt := Gen.Fn.Solar × Int × Gen.Fn.SolarWeek × Int × Bool

def nx_resW (r : Option Model.SolarWeek) : Except Gen.Fn.Err Gen.Fn.SolarWeek :=
  match r with | some r => .ok (mi_weekOfM r) | none => .error .panic

/-- `f` leaves the loop at `n = num 0` (`h0`) and otherwise does one `nx_sepStep` (`hstep`), `n` running through
`num K, …, num 0`; `At i c month`: what iteration `i` assumes of its atoms when started from `(c, month)` -/
theorem nx_sep_forIn {f : Nat → nx_WSt → Except Gen.Fn.Err (ForInStep nx_WSt)}
    {fin : nx_WSt → Except Gen.Fn.Err Gen.Fn.SolarWeek} (start : Int) (plus : Bool) (num : Nat → Int)
    (At : Nat → Model.Solar → Int → Prop)
    (h0 : ∀ i c wk month, ∃ s, f i (c, num 0, wk, month, false) = .ok (.done s) ∧ fin s = .ok wk)
    (hstep : ∀ i K c wk month, c.valid = true → At i c month →
      f i (ofM c, num (K + 1), wk, month, false) =
        match nx_sepStep start plus c month with
        | none => .error .panic
        | some st => .ok (.yield (ofM st.1, num K, mi_weekOfM st.2.1, st.2.2, false)))
    (fuel K : Nat) (c : Model.Solar) (wk : Model.SolarWeek) (month : Int) (hv : c.valid = true) (hK : K < fuel)
    (hat : ∀ j st, j < K → nx_sepIter start plus j (c, wk, month) = some st → At j st.1 st.2.2) :
    (forIn [:fuel] (ofM c, num K, mi_weekOfM wk, month, false) f >>= fin) =
      nx_resW (Model.nextSepLoop start plus K c wk month) := by
  -- the loop over the iterations `i, i + 1, …`
  have key (L : Nat) : ∀ (i K : Nat) (c : Model.Solar) (wk : Model.SolarWeek) (month : Int), c.valid = true →
      K < L → (∀ j st, j < K → nx_sepIter start plus j (c, wk, month) = some st → At (i + j) st.1 st.2.2) →
      (forIn (List.range' i L 1) (ofM c, num K, mi_weekOfM wk, month, false) f >>= fin) =
        nx_resW (Model.nextSepLoop start plus K c wk month) := by
    induction L with
    | zero => intro i K c wk month _ hK; omega
    | succ L ih =>
      intro i K c wk month hv hK hat
      rw [List.range'_succ, List.forIn_cons]
      cases K with
      | zero =>
        obtain ⟨s, e, efin⟩ := h0 i (ofM c) (mi_weekOfM wk) month
        rw [e]
        exact efin
      | succ K =>
        rw [hstep i K c _ month hv (hat 0 (c, wk, month) (by omega) rfl), nx_sepLoop_step]
        cases hst : nx_sepStep start plus c month with
        | none => rfl
        | some st =>
          refine ih (i + 1) K st.1 st.2.1 st.2.2 (nx_sepStep_valid _ _ _ _ _ hst) (by omega) fun j st' hj hit => ?_
          have := hat (j + 1) st' (by omega) (by simp only [nx_sepIter, hst, Option.bind_some]; exact hit)
          rwa [show i + (j + 1) = i + 1 + j by omega] at this
  rw [Std.Legacy.Range.forIn_eq_forIn_range']
  have := key fuel 0 K c wk month hv hK (by intro j st hj h; simpa using hat j st hj h)
  simpa [Std.Legacy.Range.size] using this

/-- **`SolarWeek.Next(weeks, true)` = `Model.SolarWeek.next … true`.**

`hat`: for every iteration `k < |weeks|`, if the model's loop state after `k` iterations
(`nx_sepIter`, started at `(NewSolarFromYmd(y,m,d), receiver, receiver.month)`) is `st`, the atoms
of iteration `k` have the model's values for the week examined in that iteration (`nx_atomsP` /
`nx_atomsM`: index, first day, weeks of month — each only where the code reads it).

Fuel: `|weeks|` iterations plus one to observe `n = 0`; the inner `NextDay` calls need 9 (`±7`),
8 (`+6`) and at most 32 (`daysOfMonth − 1 ≤ 30`). -/
theorem solarWeekNext_eq_true (fuel : Nat) (a1 : Int → Int) (a2 : Int → Gen.Fn.Solar) (a3 : Int → Int)
    (a4 : Int → Gen.Fn.Solar) (w : Gen.Fn.SolarWeek) (weeks : Int)
    (hf1 : weeks.natAbs + 1 ≤ fuel) (hf2 : (if weeks > 0 then 9 else 32) ≤ fuel)
    (hat : ∀ (k : Nat) st, k < weeks.natAbs →
      nx_sepIter w.start (decide (weeks > 0)) k
        (⟨w.year, w.month, w.day, 0, 0, 0⟩, mi_weekToM w, w.month) = some st →
      if weeks > 0 then nx_atomsP w.start st.1 st.2.2 (a1 (k : Int)) (a2 (k : Int))
      else nx_atomsM w.start st.1 st.2.2 (a1 (k : Int)) (a3 (k : Int)) (a4 (k : Int))) :
    Gen.Fn.calendar_SolarWeek_Next fuel a1 a2 a3 a4 w weeks true =
      (match (mi_weekToM w).next weeks true with
        | some r => .ok (mi_weekOfM r) | none => .error .panic) := by
  by_cases h0 : weeks = 0
  · subst h0; exact solarWeekNext_zero fuel a1 a2 a3 a4 w true
  · have h0' : ¬ 0 = weeks := fun e => h0 e.symm
    simp only [Gen.Fn.calendar_SolarWeek_Next, h0', decide_false, Bool.false_eq_true, if_false, if_true,
      Model.SolarWeek.next, if_neg h0, newSolarFromYmd_eq, mi_weekToM]
    cases hc : Model.newSolarYmd w.year w.month w.day with
    | none => rfl
    | some c =>
      obtain ⟨rfl, hv⟩ := mi_newSolarYmd_some _ _ _ _ hc
      simp only [c1_ok_bind, getYear_eq, getMonth_eq, getDay_eq, newSolarWeekFromYmd_eq]
      by_cases hp : weeks > 0
      · simp only [hp, decide_true, if_true] at hat hf2 ⊢
        obtain ⟨K, rfl⟩ : ∃ K : Nat, weeks = (K : Int) := ⟨weeks.toNat, by omega⟩
        rw [Int.natAbs_natCast] at hat hf1 ⊢
        -- the `weeks > 0` loop: `n` counts down from `K`
        refine nx_sep_forIn w.start true (fun K => (K : Int))
          (fun i c month => nx_atomsP w.start c month (a1 i) (a2 i)) ?_ ?_ fuel K _ (mi_weekToM w) w.month hv
          (by omega) hat
        · intro i c wk month
          exact ⟨_, rfl, rfl⟩
        · -- one iteration is one `nx_sepStep` of the model
          intro i K c wk month hv hat
          have hn' : (!decide (0 ≠ ((K + 1 : Nat) : Int))) = false := by simp; omega
          have e : ((K + 1 : Nat) : Int) - 1 = K := by omega
          have hnd := solarNextDay_eq fuel (ofM c) 7 (by simpa using hv) (by simpa using hf2)
          simp only [toM_ofM] at hnd
          simp only [nx_sepStep, hn', Bool.false_eq_true, if_false, if_true, hnd, e]
          cases ho : c.nextDay 7 with
          | none => rfl
          | some c1 =>
            simp only [c1_ok_bind, solarWeekGetMonth_eq, mi_weekToM_ofM, ofM_year, ofM_month, ofM_day]
            by_cases hm : month ≠ c1.month
            · obtain ⟨hi, hfd⟩ := hat c1 ho hm
              simp only [Model.weekOf] at hi hfd
              simp only [Model.weekOf, hm, decide_true, if_true, hi, ne_eq, not_false_eq_true]
              by_cases h1 : (Model.SolarWeek.mk c1.year c1.month c1.day w.start).index = 1
              · simp only [h1, decide_true, if_true, hfd h1, c1_pure]
                rfl
              · have e : ¬ (1 = (Model.SolarWeek.mk c1.year c1.month c1.day w.start).index) := fun e => h1 e.symm
                simp only [h1, e, decide_false, Bool.false_eq_true, if_false, mi_weekOfM]
                cases Model.newSolarYmd c1.year c1.month 1 <;> rfl
            · simp only [Model.weekOf, hm, decide_false, Bool.false_eq_true, if_false, c1_pure]
      · simp only [hp, decide_false, Bool.false_eq_true, if_false] at hat hf2 ⊢
        obtain ⟨K, rfl⟩ : ∃ K : Nat, weeks = -(K : Int) := ⟨weeks.natAbs, by omega⟩
        rw [Int.natAbs_neg, Int.natAbs_natCast] at hat hf1 ⊢
        -- the `weeks < 0` loop: `n` counts up from `-K`
        refine nx_sep_forIn w.start false (fun K => -(K : Int))
          (fun i c month => nx_atomsM w.start c month (a1 i) (a3 i) (a4 i)) ?_ ?_ fuel K _ (mi_weekToM w) w.month hv
          (by omega) hat
        · intro i c wk month
          exact ⟨_, rfl, rfl⟩
        · intro i K c wk month hv hat
          have hn' : (!decide (0 ≠ -((K + 1 : Nat) : Int))) = false := by simp; omega
          have e : -((K + 1 : Nat) : Int) - -1 = -(K : Int) := by omega
          have hnd := solarNextDay_eq fuel (ofM c) (-7) (by simpa using hv) (by omega)
          simp only [toM_ofM] at hnd
          simp only [nx_sepStep, hn', Bool.false_eq_true, if_false, hnd, e]
          cases ho : c.nextDay (-7) with
          | none => rfl
          | some c1 =>
            have hv1 := c2_nextDay_valid c c1 (-7) ho
            obtain ⟨hm1, hm12, _, _⟩ := c2_valid_facts c1.year c1.month c1.day c1.hour c1.minute c1.second hv1
            simp only [c1_ok_bind, solarWeekGetMonth_eq, solarWeekGetYear_eq, mi_weekToM_ofM, ofM_year, ofM_month, ofM_day]
            by_cases hm : month ≠ c1.month
            · obtain ⟨hi, hw, hfd⟩ := hat c1 ho hm
              simp only [Model.weekOf] at hi hfd
              simp only [Model.weekOf, hm, decide_true, if_true, hi, hw, ne_eq, not_false_eq_true]
              by_cases h1 : Model.weeksOfMonth c1.year c1.month w.start =
                  (Model.SolarWeek.mk c1.year c1.month c1.day w.start).index
              · have hfd' := hfd h1
                have hnd6 := solarNextDay_eq fuel (a4 (i : Int)) 6 (nx_firstDay_valid _ _ hfd') (by omega)
                simp only [h1, decide_true, if_true, hfd', c1_pure, hnd6]
                cases (toM (a4 (i : Int))).nextDay 6 <;> rfl
              · simp only [h1, decide_false, Bool.false_eq_true, if_false, mi_weekOfM,
                  getDaysOfMonth_eq c1.year c1.month hm1 hm12]
                cases hc : Model.newSolarYmd c1.year c1.month 1 with
                | none => rfl
                | some c2 =>
                  have hb := Model.daysOfMonth_bounds c1.year c1.month hm1 hm12
                  have hndl := solarNextDay_eq fuel (ofM c2) (Model.daysOfMonth c1.year c1.month - 1)
                    (by simpa using (mi_newSolarYmd_some _ _ _ _ hc).2) (by omega)
                  simp only [toM_ofM] at hndl
                  simp only [c1_ok_bind, hndl, Option.bind_some]
                  cases c2.nextDay (Model.daysOfMonth c1.year c1.month - 1) <;> rfl
            · simp only [Model.weekOf, hm, decide_false, Bool.false_eq_true, if_false, c1_pure]

end FnEq
