/-
Proofs.JiaZi — the sexagenary cycle: `LunarUtil.JIA_ZI` lists the sixty stem–branch names in cycle order, row `i` being
stem `i % 10` with branch `i % 12`.  Read once off the table (`jiazi_rows`, `pillarName_inj`), every other fact — where a
pair is found (`ganZhiIndex_spec`, by the Chinese remainder theorem), what stands at a cycle position (`jiaZiStr_pillar`) —
is arithmetic.
-/
import Model.EightChar
namespace Model
open Gen.Tables

theorem jiazi_len : LunarUtil.JIA_ZI.length = 60 := by decide

theorem ganStr_length : ∀ g : Fin 10, (ganStr (g.val : Int)).toList.length = 1 := by decide

/-- stem names are one character long, and stem names and branch names are pairwise distinct -/
theorem pillarName_inj (g g' : Fin 10) (z z' : Fin 12)
    (h : ganStr (g.val : Int) ++ zhiStr (z.val : Int) = ganStr (g'.val : Int) ++ zhiStr (z'.val : Int)) : g = g' ∧ z = z' := by
  have hg : ∀ g g' : Fin 10, ganStr (g.val : Int) = ganStr (g'.val : Int) → g = g' := by decide
  have hz : ∀ z z' : Fin 12, zhiStr (z.val : Int) = zhiStr (z'.val : Int) → z = z' := by decide
  have h := congrArg String.toList h
  rw [String.toList_append, String.toList_append] at h
  obtain ⟨h1, h2⟩ := List.append_inj h (by rw [ganStr_length, ganStr_length])
  exact ⟨hg _ _ (String.toList_inj.1 h1), hz _ _ (String.toList_inj.1 h2)⟩

theorem jiazi_rows : LunarUtil.JIA_ZI =
    (List.range 60).map (fun i => ganStr ((i % 10 : Nat) : Int) ++ zhiStr ((i % 12 : Nat) : Int)) := by
  decide

/-- the lookup in `JIA_ZI`: row `i` carries the names of stem `i % 10` and branch `i % 12`, so a pair is found iff it
has equal parities, in the row that the Chinese remainder theorem gives -/
theorem ganZhiIndex_spec (g z : Int) (hg : 0 ≤ g ∧ g ≤ 9) (hz : 0 ≤ z ∧ z ≤ 11) :
    ganZhiIndex g z = if g % 2 = z % 2 then (6 * g - 5 * z) % 60 else -1 := by
  obtain ⟨g, rfl⟩ := Int.eq_ofNat_of_zero_le hg.1
  obtain ⟨z, rfl⟩ := Int.eq_ofNat_of_zero_le hz.1
  have inj : ∀ i, i < 60 → (ganStr ((i % 10 : Nat) : Int) ++ zhiStr ((i % 12 : Nat) : Int) =
      ganStr (g : Int) ++ zhiStr (z : Int) ↔ i % 10 = g ∧ i % 12 = z) := by
    intro i hi
    constructor
    · intro h
      have := pillarName_inj ⟨i % 10, by omega⟩ ⟨g, by omega⟩ ⟨i % 12, by omega⟩ ⟨z, by omega⟩ h
      exact ⟨congrArg Fin.val this.1, congrArg Fin.val this.2⟩
    · rintro ⟨h1, h2⟩
      rw [h1, h2]
  unfold ganZhiIndex jiaZiIndexOfStr
  rw [jiazi_rows]
  split
  · rename_i i hi
    obtain ⟨hlt, hp, _⟩ := List.findIdx?_eq_some_iff_getElem.1 hi
    simp only [List.length_map, List.length_range] at hlt
    simp only [List.getElem_map, List.getElem_range, beq_iff_eq] at hp
    have := (inj i hlt).1 hp
    rw [if_pos (by omega)]
    omega
  · rename_i hn
    split
    · have := List.findIdx?_eq_none_iff.1 hn _ (List.mem_map.2 ⟨(6 * g + 55 * z) % 60,
        List.mem_range.2 (by omega), (inj _ (by omega)).2 ⟨by omega, by omega⟩⟩)
      simp at this
    · rfl

/-- pillar index of a valid (stem, branch) pair -/
theorem ganZhiIndex_eq (g z : Int) (hg : 0 ≤ g ∧ g ≤ 9) (hz : 0 ≤ z ∧ z ≤ 11) (hp : g % 2 = z % 2) :
    ganZhiIndex g z = (6 * g - 5 * z) % 60 :=
  (ganZhiIndex_spec g z hg hz).trans (if_pos hp)

/-- a mixed-parity pair is not a pillar: the lookup fails (−1) -/
theorem ganZhiIndex_mixed (g z : Int) (hg : 0 ≤ g ∧ g ≤ 9) (hz : 0 ≤ z ∧ z ≤ 11) (hp : g % 2 ≠ z % 2) :
    ganZhiIndex g z = -1 :=
  (ganZhiIndex_spec g z hg hz).trans (if_neg hp)

/-- the pillar of the `n`-th item of a sexagenary count (years from 4, days from day number 11) -/
theorem ganZhiIndex_cycle (n : Int) : ganZhiIndex (n % 10) (n % 12) = n % 60 := by
  rw [ganZhiIndex_eq _ _ (by omega) (by omega) (by omega)]
  omega

/-- looking the name of stem `i % 10` and branch `i % 12` up in JIA_ZI gives `i` back -/
theorem jiazi_table : (List.range 60).all (fun i => ganZhiIndex ((i : Int) % 10) ((i : Int) % 12) == (i : Int)) = true :=
  List.all_eq_true.2 fun i hi => beq_iff_eq.2 (by rw [ganZhiIndex_cycle]; have := List.mem_range.1 hi; omega)

/-- entry `o` of `JIA_ZI` is the pillar name of stem `o % 10`, branch `o % 12` -/
theorem jiaZiStr_pillar (o : Int) (h0 : 0 ≤ o) (h1 : o < 60) :
    jiaZiStr o = EightChar.pillarStr (o % 10) (o % 12) := by
  obtain ⟨n, rfl⟩ := Int.eq_ofNat_of_zero_le h0
  have hn : n < 60 := by omega
  unfold jiaZiStr strGetD EightChar.pillarStr
  rw [if_neg (by omega), jiazi_rows, Int.toNat_natCast, List.getD_eq_getElem?_getD,
    List.getElem?_eq_getElem (by simpa using hn)]
  simp only [List.getElem_map, List.getElem_range, Option.getD_some]
  congr 2 <;> omega

end Model
