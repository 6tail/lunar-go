/-
Proofs.FnYunStart — Yun.GetStartSolar: generated code = model.
-/
import Proofs.FnCivil2

namespace FnEq

theorem c2_newSolar_hour (y m d h mi sec : Int) (r : Model.Solar)
    (e : Model.newSolar y m d h mi sec = some r) : r.hour = h := by
  unfold Model.newSolar at e
  split at e <;> cases e
  rfl

theorem c2_nextYear_hour (s r : Model.Solar) (n : Int) (e : s.nextYear n = some r) :
    r.hour = s.hour := c2_newSolar_hour _ _ _ _ _ _ _ e
theorem c2_nextMonth_hour (s r : Model.Solar) (n : Int) (e : s.nextMonth n = some r) :
    r.hour = s.hour := c2_newSolar_hour _ _ _ _ _ _ _ e
theorem c2_nextMonth_valid (s r : Model.Solar) (n : Int) (e : s.nextMonth n = some r) :
    r.valid = true := c2_newSolar_valid _ _ _ _ _ _ _ e
theorem c2_nextDay_hour (s r : Model.Solar) (n : Int) (e : s.nextDay n = some r) :
    r.hour = s.hour := by
  rw [Model.Solar.nextDay_eq] at e
  exact c2_newSolar_hour _ _ _ _ _ _ _ e

@[simp] theorem lunarGetSolar_eq (l : Gen.Fn.Lunar) :
    Gen.Fn.calendar_Lunar_GetSolar l = .ok l.solar := rfl

/-- `Yun.GetStartSolar`.  `my` is any model `Yun` that agrees with the generated one on the fields
the function reads (the lunar date's solar date and the four start offsets).  No validity guard is
needed: `NextDay`/`NextHour` are only applied to results of `NewSolar`. The hour of day is carried
unchanged up to the `NextHour` call, hence the second fuel bound. -/
theorem yunGetStartSolar_eq (fuel : Nat) (yun : Gen.Fn.Yun) (my : Model.Yun)
    (hsol : my.lunar.solar = toM yun.lunar.solar) (hy : my.startYear = yun.startYear)
    (hm : my.startMonth = yun.startMonth) (hd : my.startDay = yun.startDay)
    (hh : my.startHour = yun.startHour)
    (hf1 : yun.startDay.natAbs + 2 ≤ fuel)
    (hf2 : (yun.lunar.solar.hour + yun.startHour).natAbs / 24 + 3 ≤ fuel) :
    Gen.Fn.calendar_Yun_GetStartSolar fuel yun = (match my.startSolar with
      | some r => .ok (ofM r) | none => .error .panic) := by
  simp only [Gen.Fn.calendar_Yun_GetStartSolar, Model.Yun.startSolar, lunarGetSolar_eq,
    c1_ok_bind, solarNextYear_eq, hsol, hy, hm, hd, hh]
  cases e1 : (toM yun.lunar.solar).nextYear yun.startYear with
  | none => rfl
  | some a =>
    simp only [c1_ok_bind, Option.bind_some, solarNextMonth_eq, toM_ofM]
    cases e2 : a.nextMonth yun.startMonth with
    | none => rfl
    | some b =>
      have hbv := c2_nextMonth_valid _ _ _ e2
      simp only [c1_ok_bind, Option.bind_some]
      rw [solarNextDay_eq fuel (ofM b) _ (by simpa using hbv) hf1]
      simp only [toM_ofM]
      cases e3 : b.nextDay yun.startDay with
      | none => rfl
      | some c =>
        have hcv := c2_nextDay_valid _ _ _ e3
        have hch : c.hour = yun.lunar.solar.hour := by
          rw [c2_nextDay_hour _ _ _ e3, c2_nextMonth_hour _ _ _ e2, c2_nextYear_hour _ _ _ e1]
          rfl
        simp only [c1_ok_bind, Option.bind_some]
        rw [solarNextHour_eq fuel (ofM c) _ (by simpa using hcv)
          (by simpa [hch] using hf2)]
        simp only [toM_ofM]
        rfl


end FnEq
