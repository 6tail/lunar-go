/-
FnSFortune — fortune-period pillars (DaYun / XiaoYun / LiuNian / LiuYue `GetGanZhi`, `GetXun`, `GetXunKong`) of the string-mode
generated code (`Gen.FnS`) versus the model (`Model.DaYun.ganZhi`, `Model.xiaoYunGanZhi`, `Model.liuNianGanZhi`,
`Model.liuYueGanZhi`).  Helpers carry the prefix `s6_`.
-/
import Proofs.FnSDecoders
import Proofs.FnS2
namespace FnSEq
open Gen.Fn (Err)

/-- `Gen.FnS.Yun` → `Model.Yun` (`terms` = the Go `jieQi` table of the lunar, not part of the generated structure) -/
def yunToM (y : Gen.FnS.Yun) (terms : List Model.Solar) : Model.Yun :=
  ⟨y.gender, y.startYear, y.startMonth, y.startDay, y.startHour, y.forward, lunarToM y.lunar terms⟩

/-- `Gen.FnS.DaYun` → `Model.DaYun` (the model's DaYun has no `yun` / `lunar` back references: they are separate arguments) -/
def daYunToM (d : Gen.FnS.DaYun) : Model.DaYun := ⟨d.startYear, d.endYear, d.startAge, d.endAge, d.index⟩

section
variable (y : Gen.FnS.Yun) (t : List Model.Solar) (d : Gen.FnS.DaYun)
@[simp] theorem yunToM_forward : (yunToM y t).forward = y.forward := rfl
@[simp] theorem yunToM_lunar : (yunToM y t).lunar = lunarToM y.lunar t := rfl
@[simp] theorem daYunToM_index : (daYunToM d).index = d.index := rfl
@[simp] theorem daYunToM_startAge : (daYunToM d).startAge = d.startAge := rfl
@[simp] theorem daYunToM_startYear : (daYunToM d).startYear = d.startYear := rfl
@[simp] theorem daYunToM_endYear : (daYunToM d).endYear = d.endYear := rfl
@[simp] theorem daYunToM_endAge : (daYunToM d).endAge = d.endAge := rfl
end

theorem s6_size : ((Gen.Tables.LunarUtil.«JIA_ZI».length : Nat) : Int) = 60 := by rw [Model.jiazi_len]; rfl

theorem s6_jiaZiStr_emod (o : Int) : Model.jiaZiStr (o % 60) = Model.EightChar.pillarStr (o % 10) (o % 12) := by
  rw [Model.jiaZiStr_pillar _ (by omega) (by omega)]
  congr 1 <;> omega

/-- for a proper pillar (stem 0..9, branch 0..11, equal parity) the name at its 60-cycle index is its name -/
theorem s6_jiaZiStr_ganZhiIndex (g z : Int) (g0 : 0 ≤ g) (g1 : g < 10) (z0 : 0 ≤ z) (z1 : z < 12) (hp : g % 2 = z % 2) :
    Model.jiaZiStr (Model.ganZhiIndex g z) = Model.EightChar.pillarStr g z := by
  rw [Model.ganZhiIndex_eq g z ⟨g0, by omega⟩ ⟨z0, by omega⟩ hp, s6_jiaZiStr_emod]
  congr 1 <;> omega

theorem s6_ganZhiIndex_range (g z : Int) : -1 ≤ Model.ganZhiIndex g z ∧ Model.ganZhiIndex g z < 60 :=
  ⟨s2_jiaZiIndexOfStr_ge _, s2_jiaZiIndexOfStr_lt _⟩

theorem s6_sidx_JIA_ZI (o : Int) :
    Gen.FnS.sidx Gen.Tables.LunarUtil.«JIA_ZI» o = if 0 ≤ o ∧ o < 60 then .ok (Model.jiaZiStr o) else .error .panic := by
  rw [sidx_total, s6_size]; rfl

/-- the Go code wraps ONCE: `if o >= 60 { o -= 60 }; if o < 0 { o += 60 }` -/
def s6_wrap1 (o : Int) : Int :=
  let o := if o ≥ 60 then o - 60 else o
  if o < 0 then o + 60 else o

theorem s6_wrap_ite {α : Type} (x : Int) (f : Int → α) :
    (if decide (x ≥ 60) = true then (if decide (x - 60 < 0) = true then f (x - 60 + 60) else f (x - 60))
     else (if decide (x < 0) = true then f (x + 60) else f x)) = f (s6_wrap1 x) := by
  simp only [s6_wrap1, decide_eq_true_eq, apply_ite f]
  split <;> rfl

/-- the `JIA_ZI` index `DaYun.GetGanZhi` reads (periods `index ≥ 1`): month pillar (exact) ± index, wrapped once -/
def daYunOffset (d : Gen.FnS.DaYun) : Int :=
  let o := Model.ganZhiIndex d.lunar.monthGanIndexExact d.lunar.monthZhiIndexExact
  s6_wrap1 (if d.yun.forward then o + d.index else o - d.index)

/-- what the generated function does on every input whose month-pillar indices are readable (−1..9, −1..11) -/
theorem daYunGetGanZhi_total (d : Gen.FnS.DaYun)
    (g0 : -1 ≤ d.lunar.monthGanIndexExact) (g1 : d.lunar.monthGanIndexExact < 10)
    (z0 : -1 ≤ d.lunar.monthZhiIndexExact) (z1 : d.lunar.monthZhiIndexExact < 12) :
    Gen.FnS.calendar_DaYun_GetGanZhi d =
      if d.index < 1 then .ok ""
      else if 0 ≤ daYunOffset d ∧ daYunOffset d < 60 then .ok (Model.jiaZiStr (daYunOffset d))
      else .error .panic := by
  unfold Gen.FnS.calendar_DaYun_GetGanZhi
  by_cases hi : d.index < 1
  · simp only [hi, decide_true, if_true]; rfl
  · simp only [hi, decide_false, Bool.false_eq_true, if_false]
    rw [lunarGetMonthInGanZhiExact_eq _ g0 g1 z0 z1, sb_bind_ok, getJiaZiIndex_eq, sb_bind_ok]
    change (Gen.FnS.calendar_Yun_IsForward d.yun >>= _) = _
    rw [show Gen.FnS.calendar_Yun_IsForward d.yun = .ok d.yun.forward from rfl, sb_bind_ok]
    rw [← s6_sidx_JIA_ZI]
    unfold daYunOffset Model.ganZhiIndex Model.EightChar.pillarStr
    generalize Model.jiaZiIndexOfStr _ = o
    generalize d.index = i
    cases d.yun.forward <;> simp only [Bool.false_eq_true, if_false, if_true]
    · exact s6_wrap_ite (o - i) _
    · exact s6_wrap_ite (o + i) _

theorem s6_daYun_model (dm : Model.DaYun) (ym : Model.Yun) (d : Gen.FnS.DaYun)
    (hi : dm.index = d.index) (hf : ym.forward = d.yun.forward)
    (hg : ym.lunar.monthGanIndexExact = d.lunar.monthGanIndexExact)
    (hz : ym.lunar.monthZhiIndexExact = d.lunar.monthZhiIndexExact) :
    Model.DaYun.ganZhi dm ym = if d.index < 1 then "" else Model.jiaZiStr (daYunOffset d) := by
  unfold Model.DaYun.ganZhi daYunOffset s6_wrap1
  simp only [hi, hf, hg, hz, s6_size]

theorem s6_daYunOffset_inRange (d : Gen.FnS.DaYun) (h1 : 1 ≤ d.index) :
    (0 ≤ daYunOffset d ∧ daYunOffset d < 60) ↔
      (if d.yun.forward then Model.ganZhiIndex d.lunar.monthGanIndexExact d.lunar.monthZhiIndexExact + d.index < 120
       else d.index ≤ Model.ganZhiIndex d.lunar.monthGanIndexExact d.lunar.monthZhiIndexExact + 60) := by
  have hr := s6_ganZhiIndex_range d.lunar.monthGanIndexExact d.lunar.monthZhiIndexExact
  unfold daYunOffset s6_wrap1
  generalize Model.ganZhiIndex _ _ = o at hr ⊢
  cases d.yun.forward <;> simp only [Bool.false_eq_true, if_false, if_true] <;> (repeat' split) <;> omega

/-- general form: any model DaYun / Yun that carry the data the Go code reads -/
theorem daYunGetGanZhi_core (d : Gen.FnS.DaYun) (dm : Model.DaYun) (ym : Model.Yun)
    (hi : dm.index = d.index) (hf : ym.forward = d.yun.forward)
    (hg : ym.lunar.monthGanIndexExact = d.lunar.monthGanIndexExact)
    (hz : ym.lunar.monthZhiIndexExact = d.lunar.monthZhiIndexExact)
    (g0 : -1 ≤ d.lunar.monthGanIndexExact) (g1 : d.lunar.monthGanIndexExact < 10)
    (z0 : -1 ≤ d.lunar.monthZhiIndexExact) (z1 : d.lunar.monthZhiIndexExact < 12)
    (hr : d.index < 1 ∨ (0 ≤ daYunOffset d ∧ daYunOffset d < 60)) :
    Gen.FnS.calendar_DaYun_GetGanZhi d = .ok (Model.DaYun.ganZhi dm ym) := by
  rw [daYunGetGanZhi_total d g0 g1 z0 z1, s6_daYun_model dm ym d hi hf hg hz]
  by_cases h : d.index < 1
  · simp only [h, if_true]
  · simp only [h, if_false, hr.resolve_left h, and_self, if_true]

/-- `DaYun.GetGanZhi`: the generated code reads `daYun.lunar`, the model the Yun's lunar (`NewDaYun` sets
`daYun.lunar = yun.GetLunar()`, see `newDaYun_fields`). Guards: month pillar (exact) readable; its 60-cycle index `o` and
`index` such that ONE wrap suffices (`s6_daYunOffset_inRange`). -/
theorem daYunGetGanZhi_eq (d : Gen.FnS.DaYun) (terms : List Model.Solar) (hl : d.lunar = d.yun.lunar)
    (g0 : -1 ≤ d.lunar.monthGanIndexExact) (g1 : d.lunar.monthGanIndexExact < 10)
    (z0 : -1 ≤ d.lunar.monthZhiIndexExact) (z1 : d.lunar.monthZhiIndexExact < 12)
    (hr : d.index < 1 ∨ (0 ≤ daYunOffset d ∧ daYunOffset d < 60)) :
    Gen.FnS.calendar_DaYun_GetGanZhi d = .ok (Model.DaYun.ganZhi (daYunToM d) (yunToM d.yun terms)) :=
  daYunGetGanZhi_core d _ _ rfl rfl (by rw [hl]; rfl) (by rw [hl]; rfl) g0 g1 z0 z1 hr

/-- natural guards: a proper month pillar (stem 0..9, branch 0..11, equal parity) and `index ≤ 60` -/
theorem daYunGetGanZhi_eq' (d : Gen.FnS.DaYun) (terms : List Model.Solar) (hl : d.lunar = d.yun.lunar)
    (g0 : 0 ≤ d.lunar.monthGanIndexExact) (g1 : d.lunar.monthGanIndexExact < 10)
    (z0 : 0 ≤ d.lunar.monthZhiIndexExact) (z1 : d.lunar.monthZhiIndexExact < 12)
    (hp : d.lunar.monthGanIndexExact % 2 = d.lunar.monthZhiIndexExact % 2) (hidx : d.index ≤ 60) :
    Gen.FnS.calendar_DaYun_GetGanZhi d = .ok (Model.DaYun.ganZhi (daYunToM d) (yunToM d.yun terms)) := by
  apply daYunGetGanZhi_eq d terms hl (by omega) g1 (by omega) z1
  by_cases h : d.index < 1
  · exact Or.inl h
  · refine Or.inr ((s6_daYunOffset_inRange d (by omega)).mpr ?_)
    rw [Model.ganZhiIndex_eq _ _ ⟨g0, by omega⟩ ⟨z0, by omega⟩ hp]
    split <;> omega

/-- outside the single-wrap range the Go code panics (index out of range on `JIA_ZI`) … -/
theorem daYunGetGanZhi_panic (d : Gen.FnS.DaYun)
    (g0 : -1 ≤ d.lunar.monthGanIndexExact) (g1 : d.lunar.monthGanIndexExact < 10)
    (z0 : -1 ≤ d.lunar.monthZhiIndexExact) (z1 : d.lunar.monthZhiIndexExact < 12)
    (h1 : 1 ≤ d.index) (hr : ¬ (0 ≤ daYunOffset d ∧ daYunOffset d < 60)) :
    Gen.FnS.calendar_DaYun_GetGanZhi d = .error .panic := by
  rw [daYunGetGanZhi_total d g0 g1 z0 z1, if_neg (by omega), if_neg hr]

/-- … while the (totalised) model yields `""` there -/
theorem daYunGanZhi_model_out (d : Gen.FnS.DaYun) (terms : List Model.Solar) (hl : d.lunar = d.yun.lunar)
    (h1 : 1 ≤ d.index) (hr : ¬ (0 ≤ daYunOffset d ∧ daYunOffset d < 60)) :
    Model.DaYun.ganZhi (daYunToM d) (yunToM d.yun terms) = "" := by
  rw [s6_daYun_model (daYunToM d) (yunToM d.yun terms) d rfl rfl (by rw [hl]; rfl) (by rw [hl]; rfl), if_neg (by omega)]
  exact strGetD_out _ _ (by rw [s6_size]; omega)

/-- unreadable month pillar: panic for every period `index ≥ 1` -/
theorem daYunGetGanZhi_panic_pillar (d : Gen.FnS.DaYun) (h1 : 1 ≤ d.index)
    (h : (d.lunar.monthGanIndexExact < -1 ∨ 10 ≤ d.lunar.monthGanIndexExact) ∨
         (-1 ≤ d.lunar.monthGanIndexExact ∧ d.lunar.monthGanIndexExact < 10 ∧
          (d.lunar.monthZhiIndexExact < -1 ∨ 12 ≤ d.lunar.monthZhiIndexExact))) :
    Gen.FnS.calendar_DaYun_GetGanZhi d = .error .panic := by
  unfold Gen.FnS.calendar_DaYun_GetGanZhi
  have hi : ¬ d.index < 1 := by omega
  simp only [hi, decide_false, Bool.false_eq_true, if_false]
  exact bind_panic (sd_pillar_panic d.lunar.monthGanIndexExact d.lunar.monthZhiIndexExact (by omega)) _

/-- period 0 (`index < 1`): `""`, whatever the lunar -/
theorem daYunGetGanZhi_zero (d : Gen.FnS.DaYun) (h : d.index < 1) : Gen.FnS.calendar_DaYun_GetGanZhi d = .ok "" := by
  unfold Gen.FnS.calendar_DaYun_GetGanZhi
  simp only [h, decide_true, if_true]; rfl

/-- number of `offset += 60` steps of `for offset < 0 { offset += size }` -/
def s6_steps (off : Int) : Nat := ((-off).toNat + 59) / 60

/-- the generated fuel loop: it needs `s6_steps off + 1` iterations (the last one sees `offset ≥ 0` and breaks) -/
theorem s6_neg_loop (fuel s : Nat) (off : Int) :
    forIn (m := Except Err) (List.range' s fuel 1) (off, false)
      (fun (_k : Nat) (st : Int × Bool) =>
        if decide (st.fst ≥ 0) = true then pure (ForInStep.done (st.fst, true))
        else pure (ForInStep.yield (st.fst + 60, st.snd))) =
    .ok (if s6_steps off + 1 ≤ fuel then (off + 60 * (s6_steps off : Int), true) else (off + 60 * (fuel : Int), false)) := by
  induction fuel generalizing s off with
  | zero => simp [pure, Except.pure]
  | succ n ih =>
    rw [List.range'_succ, List.forIn_cons]
    by_cases h : off ≥ 0
    · have hk : s6_steps off = 0 := by unfold s6_steps; omega
      simp [h, hk, pure, Except.pure, bind, Except.bind]
    · have hk : s6_steps off = s6_steps (off + 60) + 1 := by unfold s6_steps; omega
      simp only [h, decide_false, Bool.false_eq_true, if_false]
      refine (ih (s + 1) (off + 60)).trans ?_
      rw [hk]
      split
      · rw [if_pos (by omega)]; congr 2; omega
      · rw [if_neg (by omega)]; congr 2; omega

theorem s6_steps_tmod (off : Int) : (off + 60 * (s6_steps off : Int)).tmod 60 = off % 60 := by
  have h : 0 ≤ off + 60 * (s6_steps off : Int) := by unfold s6_steps; omega
  rw [Int.tmod_eq_emod_of_nonneg h]; omega

/-- the `JIA_ZI` index before reduction: hour pillar ± (index + 1 [+ startAge − 1 for periods ≥ 1]) -/
def xiaoYunOffset (x : Gen.FnS.XiaoYun) : Int :=
  let o := Model.ganZhiIndex x.lunar.timeGanIndex x.lunar.timeZhiIndex
  let add := x.index + 1 + (if x.daYun.index > 0 then x.daYun.startAge - 1 else 0)
  if x.forward then o + add else o - add

/-- the tail of the generated `XiaoYun.GetGanZhi` (copied from `Gen/FnS.lean`) as a function of the unreduced offset -/
def s6_xiaoRun (fuel : Nat) (off0 : Int) : Except Err String := do
  let mut offset : Int := off0
  let mut size : Int := 60
  let mut done6 : Bool := false
  for _k5 in [0:fuel] do
    if decide (offset ≥ 0) then
      done6 := true
      break
    offset := (offset + size)
  if !done6 then
    throw Err.fuel
  if size == 0 then throw Err.panic
  offset := (Int.tmod offset size)
  let t7 ← Gen.FnS.sidx Gen.Tables.LunarUtil.«JIA_ZI» offset
  return t7

theorem s6_xiaoRun_eq (fuel : Nat) (off : Int) :
    s6_xiaoRun fuel off =
      if s6_steps off + 1 ≤ fuel then .ok (Model.jiaZiStr (off % 60)) else .error .fuel := by
  unfold s6_xiaoRun
  simp only [forIn_range]
  rw [s6_neg_loop, sb_bind_ok]
  by_cases hf : s6_steps off + 1 ≤ fuel
  · simp only [hf, if_true, Bool.not_true, Bool.false_eq_true, if_false, s6_steps_tmod]
    rw [show ((60 : Int) == 0) = false from rfl]
    simp only [Bool.false_eq_true, if_false, s6_sidx_JIA_ZI]
    rw [if_pos (by omega)]
  · simp only [hf, if_false, Bool.not_false, if_true]
    rfl

/-- what the generated function does for every fuel (given a readable hour pillar): it never panics -/
theorem xiaoYunGetGanZhi_total (fuel : Nat) (x : Gen.FnS.XiaoYun)
    (g0 : -1 ≤ x.lunar.timeGanIndex) (g1 : x.lunar.timeGanIndex < 10)
    (z0 : -1 ≤ x.lunar.timeZhiIndex) (z1 : x.lunar.timeZhiIndex < 12) :
    Gen.FnS.calendar_XiaoYun_GetGanZhi fuel x =
      if s6_steps (xiaoYunOffset x) + 1 ≤ fuel then .ok (Model.jiaZiStr (xiaoYunOffset x % 60)) else .error .fuel := by
  unfold Gen.FnS.calendar_XiaoYun_GetGanZhi
  rw [lunarGetTimeInGanZhi_eq _ g0 g1 z0 z1, sb_bind_ok, getJiaZiIndex_eq, sb_bind_ok]
  rw [show Gen.FnS.calendar_DaYun_GetIndex x.daYun = .ok x.daYun.index from rfl, sb_bind_ok]
  rw [show Gen.FnS.calendar_DaYun_GetStartAge x.daYun = .ok x.daYun.startAge from rfl]
  unfold xiaoYunOffset
  -- in each of the four branches what remains is `s6_xiaoRun` at that branch's offset
  by_cases hd : x.daYun.index > 0 <;> cases x.forward <;>
    simp only [hd, decide_true, decide_false, if_true, if_false, Bool.false_eq_true, Int.add_zero, sb_bind_ok] <;>
    exact s6_xiaoRun_eq fuel _

/-- the model on the same data (Euclidean `%` = the Go loop `for offset < 0 { offset += 60 }` followed by `%`) -/
theorem s6_xiaoYun_model (ym : Model.Yun) (dm : Model.DaYun) (x : Gen.FnS.XiaoYun)
    (hg : ym.lunar.timeGanIndex = x.lunar.timeGanIndex) (hz : ym.lunar.timeZhiIndex = x.lunar.timeZhiIndex)
    (hf : ym.forward = x.forward) (hi : dm.index = x.daYun.index) (ha : dm.startAge = x.daYun.startAge) :
    Model.xiaoYunGanZhi ym dm x.index = Model.jiaZiStr (xiaoYunOffset x % 60) := by
  unfold Model.xiaoYunGanZhi xiaoYunOffset
  simp only [hg, hz, hf, hi, ha, s6_size]

/-- general form: any model Yun / DaYun that carry the data the Go code reads -/
theorem xiaoYunGetGanZhi_core (fuel : Nat) (x : Gen.FnS.XiaoYun) (ym : Model.Yun) (dm : Model.DaYun)
    (hg : ym.lunar.timeGanIndex = x.lunar.timeGanIndex) (hz : ym.lunar.timeZhiIndex = x.lunar.timeZhiIndex)
    (hf : ym.forward = x.forward) (hi : dm.index = x.daYun.index) (ha : dm.startAge = x.daYun.startAge)
    (g0 : -1 ≤ x.lunar.timeGanIndex) (g1 : x.lunar.timeGanIndex < 10)
    (z0 : -1 ≤ x.lunar.timeZhiIndex) (z1 : x.lunar.timeZhiIndex < 12)
    (hfuel : s6_steps (xiaoYunOffset x) + 1 ≤ fuel) :
    Gen.FnS.calendar_XiaoYun_GetGanZhi fuel x = .ok (Model.xiaoYunGanZhi ym dm x.index) := by
  rw [xiaoYunGetGanZhi_total fuel x g0 g1 z0 z1, if_pos hfuel, s6_xiaoYun_model ym dm x hg hz hf hi ha]

/-- `XiaoYun.GetGanZhi`: the generated code reads `xiaoYun.lunar` and `xiaoYun.forward`, the model the Yun's
(`NewXiaoYun(daYun, i, daYun.yun.IsForward())` sets `lunar = daYun.GetLunar()`, see `newXiaoYun_eq`). Guards: hour pillar readable;
fuel = number of `+= 60` steps + 1. No parity / range guard: the reduced index is always in 0..59. -/
theorem xiaoYunGetGanZhi_eq (fuel : Nat) (x : Gen.FnS.XiaoYun) (terms : List Model.Solar)
    (hl : x.lunar = x.daYun.yun.lunar) (hfw : x.forward = x.daYun.yun.forward)
    (g0 : -1 ≤ x.lunar.timeGanIndex) (g1 : x.lunar.timeGanIndex < 10)
    (z0 : -1 ≤ x.lunar.timeZhiIndex) (z1 : x.lunar.timeZhiIndex < 12)
    (hfuel : s6_steps (xiaoYunOffset x) + 1 ≤ fuel) :
    Gen.FnS.calendar_XiaoYun_GetGanZhi fuel x
      = .ok (Model.xiaoYunGanZhi (yunToM x.daYun.yun terms) (daYunToM x.daYun) x.index) :=
  xiaoYunGetGanZhi_core fuel x _ _ (by rw [hl]; rfl) (by rw [hl]; rfl) (by rw [hfw]; rfl) rfl rfl g0 g1 z0 z1 hfuel

theorem xiaoYunGetGanZhi_fuel (fuel : Nat) (x : Gen.FnS.XiaoYun)
    (g0 : -1 ≤ x.lunar.timeGanIndex) (g1 : x.lunar.timeGanIndex < 10)
    (z0 : -1 ≤ x.lunar.timeZhiIndex) (z1 : x.lunar.timeZhiIndex < 12)
    (hfuel : fuel < s6_steps (xiaoYunOffset x) + 1) :
    Gen.FnS.calendar_XiaoYun_GetGanZhi fuel x = .error .fuel := by
  rw [xiaoYunGetGanZhi_total fuel x g0 g1 z0 z1, if_neg (by omega)]

/-- a simple sufficient fuel -/
theorem s6_steps_le (off : Int) : s6_steps off + 1 ≤ (-off).toNat / 60 + 2 := by unfold s6_steps; omega

/-- unreadable hour pillar: panic -/
theorem xiaoYunGetGanZhi_panic_pillar (fuel : Nat) (x : Gen.FnS.XiaoYun)
    (h : (x.lunar.timeGanIndex < -1 ∨ 10 ≤ x.lunar.timeGanIndex) ∨
         (-1 ≤ x.lunar.timeGanIndex ∧ x.lunar.timeGanIndex < 10 ∧ (x.lunar.timeZhiIndex < -1 ∨ 12 ≤ x.lunar.timeZhiIndex))) :
    Gen.FnS.calendar_XiaoYun_GetGanZhi fuel x = .error .panic :=
  bind_panic (sd_pillar_panic x.lunar.timeGanIndex x.lunar.timeZhiIndex (by omega)) _

/-- the unreduced `JIA_ZI` offset: year pillar (exact) of the Lichun lunar `a1` + index [+ startAge − 1 for periods ≥ 1] -/
def liuNianOffset (a1 : Gen.FnS.Lunar) (n : Gen.FnS.LiuNian) : Int :=
  Model.ganZhiIndex a1.yearGanIndexExact a1.yearZhiIndexExact + n.index
    + (if n.daYun.index > 0 then n.daYun.startAge - 1 else 0)

/-- what the generated function does for every input with a readable pillar: Go's truncated `%` may be negative → panic -/
theorem liuNianGetGanZhi_total (a1 : Gen.FnS.Lunar) (n : Gen.FnS.LiuNian)
    (g0 : -1 ≤ a1.yearGanIndexExact) (g1 : a1.yearGanIndexExact < 10)
    (z0 : -1 ≤ a1.yearZhiIndexExact) (z1 : a1.yearZhiIndexExact < 12) :
    Gen.FnS.calendar_LiuNian_GetGanZhi a1 n =
      if 0 ≤ (liuNianOffset a1 n).tmod 60 then .ok (Model.jiaZiStr ((liuNianOffset a1 n).tmod 60)) else .error .panic := by
  unfold Gen.FnS.calendar_LiuNian_GetGanZhi
  rw [lunarGetYearInGanZhiExact_eq _ g0 g1 z0 z1, sb_bind_ok, getJiaZiIndex_eq, sb_bind_ok]
  rw [show Gen.FnS.calendar_DaYun_GetIndex n.daYun = .ok n.daYun.index from rfl, sb_bind_ok]
  rw [show Gen.FnS.calendar_DaYun_GetStartAge n.daYun = .ok n.daYun.startAge from rfl]
  have h60 : ((60 : Nat) == 0) = false := rfl
  have hlt : ∀ v : Int, v.tmod 60 < 60 := fun v => Int.tmod_lt_of_pos v (by omega)
  unfold liuNianOffset Model.ganZhiIndex Model.EightChar.pillarStr
  by_cases hd : n.daYun.index > 0 <;>
    simp only [hd, h60, decide_true, decide_false, if_true, if_false, Bool.false_eq_true, Int.add_zero, sb_bind_ok,
      s6_sidx_JIA_ZI, hlt, and_true]

theorem s6_liuNian_model (A : Model.Astro) (ym : Model.Yun) (dm : Model.DaYun) (ll : Model.Lunar)
    (a1 : Gen.FnS.Lunar) (n : Gen.FnS.LiuNian)
    (hll : Model.Lunar.fromSolar A (Model.termByName ym.lunar.terms "立春") = some ll)
    (hg : ll.yearGanIndexExact = a1.yearGanIndexExact) (hz : ll.yearZhiIndexExact = a1.yearZhiIndexExact)
    (hi : dm.index = n.daYun.index) (ha : dm.startAge = n.daYun.startAge) :
    Model.liuNianGanZhi A ym dm n.index = some (Model.jiaZiStr ((liuNianOffset a1 n).tmod 60)) := by
  unfold Model.liuNianGanZhi liuNianOffset
  simp only [hll, hg, hz, hi, ha, s6_size]
  by_cases hd : n.daYun.index > 0
  · simp only [hd, if_true]; congr 3; omega
  · simp only [hd, if_false, Int.add_zero]

/-- general form. `ll` is the model's Lunar at the Lichun instant of the birth table; the atom `a1`
(`jieQi["立春"].GetLunar()`) only has to carry its exact year pillar. Guards: that pillar readable; the unreduced offset not
"negative and not a multiple of 60" (holds when it is ≥ 0). -/
theorem liuNianGetGanZhi_core (A : Model.Astro) (ym : Model.Yun) (dm : Model.DaYun) (ll : Model.Lunar)
    (a1 : Gen.FnS.Lunar) (n : Gen.FnS.LiuNian)
    (hll : Model.Lunar.fromSolar A (Model.termByName ym.lunar.terms "立春") = some ll)
    (hg : ll.yearGanIndexExact = a1.yearGanIndexExact) (hz : ll.yearZhiIndexExact = a1.yearZhiIndexExact)
    (hi : dm.index = n.daYun.index) (ha : dm.startAge = n.daYun.startAge)
    (g0 : -1 ≤ a1.yearGanIndexExact) (g1 : a1.yearGanIndexExact < 10)
    (z0 : -1 ≤ a1.yearZhiIndexExact) (z1 : a1.yearZhiIndexExact < 12)
    (hr : 0 ≤ (liuNianOffset a1 n).tmod 60) :
    Gen.FnS.calendar_LiuNian_GetGanZhi a1 n =
      (match Model.liuNianGanZhi A ym dm n.index with | some s => .ok s | none => .error .panic) := by
  rw [liuNianGetGanZhi_total a1 n g0 g1 z0 z1, if_pos hr, s6_liuNian_model A ym dm ll a1 n hll hg hz hi ha]

/-- `LiuNian.GetGanZhi` with the model images of `liuNian.daYun.yun` / `liuNian.daYun` -/
theorem liuNianGetGanZhi_eq (A : Model.Astro) (terms terms' : List Model.Solar) (ll : Model.Lunar)
    (a1 : Gen.FnS.Lunar) (n : Gen.FnS.LiuNian)
    (hll : Model.Lunar.fromSolar A (Model.termByName terms "立春") = some ll)
    (ha1 : lunarToM a1 terms' = ll)
    (g0 : -1 ≤ a1.yearGanIndexExact) (g1 : a1.yearGanIndexExact < 10)
    (z0 : -1 ≤ a1.yearZhiIndexExact) (z1 : a1.yearZhiIndexExact < 12)
    (hr : 0 ≤ (liuNianOffset a1 n).tmod 60) :
    Gen.FnS.calendar_LiuNian_GetGanZhi a1 n =
      (match Model.liuNianGanZhi A (yunToM n.daYun.yun terms) (daYunToM n.daYun) n.index with
        | some s => .ok s | none => .error .panic) :=
  liuNianGetGanZhi_core A _ _ ll a1 n hll (by rw [← ha1]; rfl) (by rw [← ha1]; rfl) rfl rfl g0 g1 z0 z1 hr

/-- natural guards: proper year pillar, `index ≥ 0`, `startAge ≥ 1` for periods ≥ 1 -/
theorem liuNianGetGanZhi_eq' (A : Model.Astro) (terms terms' : List Model.Solar) (ll : Model.Lunar)
    (a1 : Gen.FnS.Lunar) (n : Gen.FnS.LiuNian)
    (hll : Model.Lunar.fromSolar A (Model.termByName terms "立春") = some ll)
    (ha1 : lunarToM a1 terms' = ll)
    (g0 : -1 ≤ a1.yearGanIndexExact) (g1 : a1.yearGanIndexExact < 10)
    (z0 : -1 ≤ a1.yearZhiIndexExact) (z1 : a1.yearZhiIndexExact < 12)
    (hp : 0 ≤ Model.ganZhiIndex a1.yearGanIndexExact a1.yearZhiIndexExact)
    (hidx : 0 ≤ n.index) (hage : n.daYun.index > 0 → 1 ≤ n.daYun.startAge) :
    Gen.FnS.calendar_LiuNian_GetGanZhi a1 n =
      (match Model.liuNianGanZhi A (yunToM n.daYun.yun terms) (daYunToM n.daYun) n.index with
        | some s => .ok s | none => .error .panic) := by
  apply liuNianGetGanZhi_eq A terms terms' ll a1 n hll ha1 g0 g1 z0 z1
  apply Int.tmod_nonneg
  unfold liuNianOffset
  split
  · rename_i h; have := hage h; omega
  · omega

theorem liuNianGetGanZhi_panic (a1 : Gen.FnS.Lunar) (n : Gen.FnS.LiuNian)
    (g0 : -1 ≤ a1.yearGanIndexExact) (g1 : a1.yearGanIndexExact < 10)
    (z0 : -1 ≤ a1.yearZhiIndexExact) (z1 : a1.yearZhiIndexExact < 12)
    (hr : (liuNianOffset a1 n).tmod 60 < 0) :
    Gen.FnS.calendar_LiuNian_GetGanZhi a1 n = .error .panic := by
  rw [liuNianGetGanZhi_total a1 n g0 g1 z0 z1, if_neg (by omega)]

/-- the five-tigers offset read off the first character of the LiuNian pillar name (the model's expression) -/
def wuHuOffsetOf (yearGan : String) : Int :=
  if yearGan == "甲" || yearGan == "己" then 2
  else if yearGan == "乙" || yearGan == "庚" then 4
  else if yearGan == "丙" || yearGan == "辛" then 6
  else if yearGan == "丁" || yearGan == "壬" then 8
  else 0

def wuHuOffset (gz : String) : Int := wuHuOffsetOf (String.ofList (gz.toList.take 1))

theorem s6_wuHuOffsetOf_range (s : String) : 0 ≤ wuHuOffsetOf s ∧ wuHuOffsetOf s ≤ 8 := by
  unfold wuHuOffsetOf; (repeat' split) <;> omega

theorem s6_tmod_eq_emod (x b : Int) (h : 0 ≤ x.tmod b) : x.tmod b = x % b := by
  rw [Int.tmod_eq_emod]
  by_cases hc : 0 ≤ x ∨ b ∣ x
  · simp [hc]
  · exfalso
    have hx : x < 0 := by omega
    have h3 : (-x).tmod b = -(x.tmod b) := Int.neg_tmod x b
    have h4 : 0 ≤ (-x).tmod b := Int.tmod_nonneg _ (by omega)
    have h5 : x.tmod b = 0 := by omega
    exact hc (Or.inr (Int.dvd_of_tmod_eq_zero h5))

theorem s6_runesSlice_01 (l : List Char) :
    Gen.FnS.runesSlice l 0 1 = if l = [] then .error .panic else .ok (l.take 1) := by
  cases l with
  | nil => simp [Gen.FnS.runesSlice, throw, throwThe, MonadExceptOf.throw]
  | cons c r => rw [runesSlice_head, if_neg (List.cons_ne_nil c r)]; rfl

/-- empty LiuNian name: the rune slice `gz[0:1]` panics -/
theorem liuYueGetGanZhi_panic_empty (m : Gen.FnS.LiuYue) :
    Gen.FnS.calendar_LiuYue_GetGanZhi "" m = .error .panic := by
  unfold Gen.FnS.calendar_LiuYue_GetGanZhi
  dsimp only
  rw [s6_runesSlice_01, if_pos String.toList_empty]; rfl

/-- what the generated function does on every non-empty name: two table reads at Go's truncated remainders -/
theorem liuYueGetGanZhi_total (a1 : String) (m : Gen.FnS.LiuYue) (h : a1 ≠ "") :
    Gen.FnS.calendar_LiuYue_GetGanZhi a1 m =
      (Gen.FnS.sidx Gen.Tables.LunarUtil.«GAN» ((Int.tmod (m.index + wuHuOffset a1) 10) + 1) >>= fun t2 =>
       Gen.FnS.sidx Gen.Tables.LunarUtil.«ZHI» ((Int.tmod (m.index + 2) 12) + 1) >>= fun t3 => pure (t2 ++ t3)) := by
  unfold Gen.FnS.calendar_LiuYue_GetGanZhi wuHuOffset wuHuOffsetOf
  dsimp only
  rw [s6_runesSlice_01, if_neg (fun hh => h (String.toList_eq_nil_iff.mp hh)), sb_bind_ok]
  generalize String.ofList (a1.toList.take 1) = yg
  -- the generated code runs the two reads in each branch of the offset cascade, the right side once on the
  -- cascade's value: push them through the `if`s
  simp only [strCompare_decide_eq, apply_ite (fun off : Int =>
    Gen.FnS.sidx Gen.Tables.LunarUtil.«GAN» ((Int.tmod (m.index + off) 10) + 1) >>= fun t2 =>
    Gen.FnS.sidx Gen.Tables.LunarUtil.«ZHI» ((Int.tmod (m.index + 2) 12) + 1) >>= fun t3 => pure (t2 ++ t3))]

/-- `LiuYue.GetGanZhi` (atom `a1` = the LiuNian pillar name). Guards: `a1` non-empty; the two truncated remainders
non-negative (then they equal the model's Euclidean ones) -/
theorem liuYueGetGanZhi_eq (a1 : String) (m : Gen.FnS.LiuYue) (h : a1 ≠ "")
    (h1 : 0 ≤ (m.index + wuHuOffset a1).tmod 10) (h2 : 0 ≤ (m.index + 2).tmod 12) :
    Gen.FnS.calendar_LiuYue_GetGanZhi a1 m = .ok (Model.liuYueGanZhi a1 m.index) := by
  -- the two reads are `readPillar` at the remainders, and the model's name is that pillar's
  rw [liuYueGetGanZhi_total a1 m h, s6_tmod_eq_emod _ _ h1, s6_tmod_eq_emod _ _ h2]
  exact readPillar_eq _ _ (by omega) (by omega) (by omega) (by omega)

/-- natural guard: month index ≥ 0 (the library uses 0..11) -/
theorem liuYueGetGanZhi_eq' (a1 : String) (m : Gen.FnS.LiuYue) (h : a1 ≠ "") (hi : 0 ≤ m.index) :
    Gen.FnS.calendar_LiuYue_GetGanZhi a1 m = .ok (Model.liuYueGanZhi a1 m.index) := by
  have hr := s6_wuHuOffsetOf_range (String.ofList (a1.toList.take 1))
  apply liuYueGetGanZhi_eq a1 m h
  · exact Int.tmod_nonneg _ (by unfold wuHuOffset; omega)
  · exact Int.tmod_nonneg _ (by omega)

/-- stem remainder below −1: the `GAN` read panics -/
theorem liuYueGetGanZhi_panic (a1 : String) (m : Gen.FnS.LiuYue) (h : a1 ≠ "")
    (h1 : (m.index + wuHuOffset a1).tmod 10 < -1) :
    Gen.FnS.calendar_LiuYue_GetGanZhi a1 m = .error .panic := by
  rw [liuYueGetGanZhi_total a1 m h]
  exact sd_pillar_panic _ _ (Or.inl h1)

/-- in range, the DaYun pillar name is the pillar of stem `o % 10`, branch `o % 12` (`o = daYunOffset`) -/
theorem daYunGanZhi_pillar (dm : Model.DaYun) (ym : Model.Yun) (d : Gen.FnS.DaYun)
    (hi : dm.index = d.index) (hf : ym.forward = d.yun.forward)
    (hg : ym.lunar.monthGanIndexExact = d.lunar.monthGanIndexExact)
    (hz : ym.lunar.monthZhiIndexExact = d.lunar.monthZhiIndexExact)
    (h1 : 1 ≤ d.index) (hr : 0 ≤ daYunOffset d ∧ daYunOffset d < 60) :
    Model.DaYun.ganZhi dm ym = Model.EightChar.pillarStr (daYunOffset d % 10) (daYunOffset d % 12) := by
  rw [s6_daYun_model dm ym d hi hf hg hz, if_neg (by omega), Model.jiaZiStr_pillar _ hr.1 hr.2]

/-- `DaYun.GetXun`: `""` for period 0, else the xun of the period's pillar (guards as for `GetGanZhi`) -/
theorem daYunGetXun_eq (d : Gen.FnS.DaYun)
    (g0 : -1 ≤ d.lunar.monthGanIndexExact) (g1 : d.lunar.monthGanIndexExact < 10)
    (z0 : -1 ≤ d.lunar.monthZhiIndexExact) (z1 : d.lunar.monthZhiIndexExact < 12)
    (hr : d.index < 1 ∨ (0 ≤ daYunOffset d ∧ daYunOffset d < 60)) :
    Gen.FnS.calendar_DaYun_GetXun d =
      .ok (if d.index < 1 then "" else Model.EightChar.xun (daYunOffset d % 10) (daYunOffset d % 12)) := by
  unfold Gen.FnS.calendar_DaYun_GetXun
  by_cases h : d.index < 1
  · simp only [h, decide_true, if_true]; rfl
  · have hr' := hr.resolve_left h
    simp only [h, decide_false, Bool.false_eq_true, if_false]
    rw [daYunGetGanZhi_total d g0 g1 z0 z1, if_neg h, if_pos hr', sb_bind_ok, Model.jiaZiStr_pillar _ hr'.1 hr'.2,
      getXun_pillar _ _ (by omega) (by omega) (by omega) (by omega)]

theorem daYunGetXunKong_eq (d : Gen.FnS.DaYun)
    (g0 : -1 ≤ d.lunar.monthGanIndexExact) (g1 : d.lunar.monthGanIndexExact < 10)
    (z0 : -1 ≤ d.lunar.monthZhiIndexExact) (z1 : d.lunar.monthZhiIndexExact < 12)
    (hr : d.index < 1 ∨ (0 ≤ daYunOffset d ∧ daYunOffset d < 60)) :
    Gen.FnS.calendar_DaYun_GetXunKong d =
      .ok (if d.index < 1 then "" else Model.EightChar.xunKong (daYunOffset d % 10) (daYunOffset d % 12)) := by
  unfold Gen.FnS.calendar_DaYun_GetXunKong
  by_cases h : d.index < 1
  · simp only [h, decide_true, if_true]; rfl
  · have hr' := hr.resolve_left h
    simp only [h, decide_false, Bool.false_eq_true, if_false]
    rw [daYunGetGanZhi_total d g0 g1 z0 z1, if_neg h, if_pos hr', sb_bind_ok, Model.jiaZiStr_pillar _ hr'.1 hr'.2,
      getXunKong_pillar _ _ (by omega) (by omega) (by omega) (by omega)]

/-- outside the single-wrap range `GetXun` / `GetXunKong` panic with `GetGanZhi` -/
theorem daYunGetXun_panic (d : Gen.FnS.DaYun)
    (g0 : -1 ≤ d.lunar.monthGanIndexExact) (g1 : d.lunar.monthGanIndexExact < 10)
    (z0 : -1 ≤ d.lunar.monthZhiIndexExact) (z1 : d.lunar.monthZhiIndexExact < 12)
    (h1 : 1 ≤ d.index) (hr : ¬ (0 ≤ daYunOffset d ∧ daYunOffset d < 60)) :
    Gen.FnS.calendar_DaYun_GetXun d = .error .panic ∧ Gen.FnS.calendar_DaYun_GetXunKong d = .error .panic := by
  have h : ¬ d.index < 1 := by omega
  unfold Gen.FnS.calendar_DaYun_GetXun Gen.FnS.calendar_DaYun_GetXunKong
  simp only [h, decide_false, Bool.false_eq_true, if_false]
  rw [daYunGetGanZhi_panic d g0 g1 z0 z1 h1 hr]
  exact ⟨rfl, rfl⟩

/-- the XiaoYun pillar name is the pillar of stem `off % 10`, branch `off % 12` (`off = xiaoYunOffset`, unreduced) -/
theorem xiaoYunGanZhi_pillar (ym : Model.Yun) (dm : Model.DaYun) (x : Gen.FnS.XiaoYun)
    (hg : ym.lunar.timeGanIndex = x.lunar.timeGanIndex) (hz : ym.lunar.timeZhiIndex = x.lunar.timeZhiIndex)
    (hf : ym.forward = x.forward) (hi : dm.index = x.daYun.index) (ha : dm.startAge = x.daYun.startAge) :
    Model.xiaoYunGanZhi ym dm x.index = Model.EightChar.pillarStr (xiaoYunOffset x % 10) (xiaoYunOffset x % 12) := by
  rw [s6_xiaoYun_model ym dm x hg hz hf hi ha, s6_jiaZiStr_emod]

/-- `XiaoYun.GetXun` (guards as for `GetGanZhi`) -/
theorem xiaoYunGetXun_eq (fuel : Nat) (x : Gen.FnS.XiaoYun)
    (g0 : -1 ≤ x.lunar.timeGanIndex) (g1 : x.lunar.timeGanIndex < 10)
    (z0 : -1 ≤ x.lunar.timeZhiIndex) (z1 : x.lunar.timeZhiIndex < 12)
    (hfuel : s6_steps (xiaoYunOffset x) + 1 ≤ fuel) :
    Gen.FnS.calendar_XiaoYun_GetXun fuel x = .ok (Model.EightChar.xun (xiaoYunOffset x % 10) (xiaoYunOffset x % 12)) := by
  unfold Gen.FnS.calendar_XiaoYun_GetXun
  rw [xiaoYunGetGanZhi_total fuel x g0 g1 z0 z1, if_pos hfuel, sb_bind_ok, s6_jiaZiStr_emod,
    getXun_pillar _ _ (by omega) (by omega) (by omega) (by omega)]

theorem xiaoYunGetXunKong_eq (fuel : Nat) (x : Gen.FnS.XiaoYun)
    (g0 : -1 ≤ x.lunar.timeGanIndex) (g1 : x.lunar.timeGanIndex < 10)
    (z0 : -1 ≤ x.lunar.timeZhiIndex) (z1 : x.lunar.timeZhiIndex < 12)
    (hfuel : s6_steps (xiaoYunOffset x) + 1 ≤ fuel) :
    Gen.FnS.calendar_XiaoYun_GetXunKong fuel x
      = .ok (Model.EightChar.xunKong (xiaoYunOffset x % 10) (xiaoYunOffset x % 12)) := by
  unfold Gen.FnS.calendar_XiaoYun_GetXunKong
  rw [xiaoYunGetGanZhi_total fuel x g0 g1 z0 z1, if_pos hfuel, sb_bind_ok, s6_jiaZiStr_emod,
    getXunKong_pillar _ _ (by omega) (by omega) (by omega) (by omega)]

/-! The constructors establish the hypotheses used above. -/

theorem newXiaoYun_eq (d : Gen.FnS.DaYun) (i : Int) (fw : Bool) :
    Gen.FnS.calendar_NewXiaoYun d i fw = .ok ⟨i, d, d.startYear + i, d.startAge + i, fw, d.lunar⟩ := rfl

theorem newLiuNian_eq (d : Gen.FnS.DaYun) (i : Int) :
    Gen.FnS.calendar_NewLiuNian d i = .ok ⟨i, d, d.startYear + i, d.startAge + i, d.lunar⟩ := rfl

theorem newLiuYue_eq (n : Gen.FnS.LiuNian) (i : Int) : Gen.FnS.calendar_NewLiuYue n i = .ok ⟨i, n⟩ := rfl

/-- whenever `NewDaYun` returns, the period refers to the Yun, shares its lunar and carries the index -/
theorem newDaYun_fields (fuel : Nat) (yun : Gen.FnS.Yun) (index : Int) (d : Gen.FnS.DaYun)
    (h : Gen.FnS.calendar_NewDaYun fuel yun index = .ok d) :
    d.yun = yun ∧ d.lunar = yun.lunar ∧ d.index = index := by
  unfold Gen.FnS.calendar_NewDaYun at h
  -- the only call that can fail is `Yun.GetStartSolar`; the three fields are set before it and never again
  cases hs : Gen.FnS.calendar_Yun_GetStartSolar fuel yun with
  | error e => rw [hs] at h; cases h
  | ok ss =>
    rw [hs] at h
    by_cases hi : index < 1 <;>
      simp only [hi, decide_true, decide_false, Bool.false_eq_true, if_true, if_false] at h <;>
      cases h <;> exact ⟨rfl, rfl, rfl⟩

section Axioms
#print axioms s6_jiaZiStr_ganZhiIndex
#print axioms daYunGetGanZhi_total
#print axioms daYunGetGanZhi_core
#print axioms daYunGetGanZhi_eq
#print axioms daYunGetGanZhi_eq'
#print axioms daYunGetGanZhi_panic
#print axioms daYunGanZhi_model_out
#print axioms daYunGetGanZhi_panic_pillar
#print axioms daYunGetGanZhi_zero
#print axioms s6_daYunOffset_inRange
#print axioms xiaoYunGetGanZhi_total
#print axioms xiaoYunGetGanZhi_core
#print axioms xiaoYunGetGanZhi_eq
#print axioms xiaoYunGetGanZhi_fuel
#print axioms xiaoYunGetGanZhi_panic_pillar
#print axioms liuNianGetGanZhi_total
#print axioms liuNianGetGanZhi_core
#print axioms liuNianGetGanZhi_eq
#print axioms liuNianGetGanZhi_eq'
#print axioms liuNianGetGanZhi_panic
#print axioms liuYueGetGanZhi_total
#print axioms liuYueGetGanZhi_eq
#print axioms liuYueGetGanZhi_eq'
#print axioms liuYueGetGanZhi_panic_empty
#print axioms liuYueGetGanZhi_panic
#print axioms daYunGanZhi_pillar
#print axioms daYunGetXun_eq
#print axioms daYunGetXunKong_eq
#print axioms daYunGetXun_panic
#print axioms xiaoYunGanZhi_pillar
#print axioms xiaoYunGetXun_eq
#print axioms xiaoYunGetXunKong_eq
#print axioms newXiaoYun_eq
#print axioms newLiuNian_eq
#print axioms newLiuYue_eq
#print axioms newDaYun_fields
end Axioms
end FnSEq
