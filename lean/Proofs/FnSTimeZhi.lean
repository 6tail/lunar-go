/-
Proofs.FnSTimeZhi — `LunarUtil.GetTimeZhiIndex` / `ConvertTime` / `computeTime`: the hour-branch lookup of the
string-mode generated code scans the odd hours with `strings.Compare` exactly as `Model.timeZhiScan` does.
Helpers carry the prefix `s5_`.
-/
import Proofs.FnSFmt
import Model.Lunar

namespace FnSEq
open Gen.Fn (Err)
open Gen.Tables

/-- `strings.Compare` of the generated code = the model's `cmpChars` on the character lists -/
theorem strCompare_eq_cmpChars (a b : String) :
    Gen.FnS.strCompare a b = (match Model.cmpChars a.toList b.toList with | .lt => -1 | .eq => 0 | .gt => 1) := by
  unfold Gen.FnS.strCompare
  simp only [String.lt_iff, ← Model.cmpChars_lt_iff, ← String.toList_inj, ← Model.cmpChars_eq_iff]
  cases Model.cmpChars a.toList b.toList <;> simp

theorem s5_ge0 (a b : String) : decide (Gen.FnS.strCompare a b ≥ 0) = Model.strGe a.toList b.toList := by
  rw [strCompare_eq_cmpChars]; unfold Model.strGe
  cases Model.cmpChars a.toList b.toList <;> decide

theorem s5_le0 (a b : String) : decide (Gen.FnS.strCompare a b ≤ 0) = Model.strLe a.toList b.toList := by
  rw [strCompare_eq_cmpChars]; unfold Model.strLe
  cases Model.cmpChars a.toList b.toList <;> decide

theorem s5_hm_toList (h mi : Int) :
    (Gen.FnS.fmtPad 2 h ++ ":" ++ Gen.FnS.fmtPad 2 mi).toList = Model.fmtHm h mi := by
  rw [String.toList_append, String.toList_append, fmtPad_toList 2 h (by decide), fmtPad_toList 2 mi (by decide), s4_colon]
  rfl

theorem s5_lo_toList (i : Int) : (Gen.FnS.fmtPad 2 i ++ ":00").toList = Model.fmtHm i 0 := by
  rw [show ":00" = ":" ++ Gen.FnS.fmtPad 2 0 by decide, ← String.append_assoc, s5_hm_toList]
theorem s5_hi_toList (i : Int) : (Gen.FnS.fmtPad 2 (i + 1) ++ ":59").toList = Model.fmtHm (i + 1) 59 := by
  rw [show ":59" = ":" ++ Gen.FnS.fmtPad 2 59 by decide, ← String.append_assoc, s5_hm_toList]

/-- the scan over the odd hours 1, 3, …, 21: the generated `for` with early `return` = `Model.timeZhiScan` -/
theorem s5_scan_loop (hm : String) (n s : Nat) (x : Int) (fuel : Nat) (hs : s + n = 11) (hf : n < fuel) :
    (forIn (m := Except Err) (List.range' s n 1) ((none : Option Int), x)
      (fun (k2 : Nat) (__s : Option Int × Int) =>
        if (decide (Gen.FnS.strCompare hm (Gen.FnS.fmtPad 2 (1 + 2 * (k2 : Int)) ++ ":00") ≥ 0) &&
            decide (Gen.FnS.strCompare hm (Gen.FnS.fmtPad 2 (1 + 2 * (k2 : Int) + 1) ++ ":59") ≤ 0)) = true
        then pure (ForInStep.done (some __s.snd, __s.snd))
        else pure (ForInStep.yield (none, __s.snd + 1))) >>= fun __s =>
      match __s.fst with
      | some r => pure r
      | none => pure 0)
    = .ok (Model.timeZhiScan hm.toList fuel (1 + 2 * (s : Int)) x) := by
  induction n generalizing s x fuel with
  | zero =>
    obtain ⟨f, rfl⟩ : ∃ f, fuel = f + 1 := ⟨fuel - 1, by omega⟩
    have : (1 + 2 * (s : Int)) ≥ 22 := by omega
    simp [Model.timeZhiScan, this, pure, Except.pure, bind, Except.bind]
  | succ n ih =>
    obtain ⟨f, rfl⟩ : ∃ f, fuel = f + 1 := ⟨fuel - 1, by omega⟩
    have hi : ¬ (1 + 2 * (s : Int)) ≥ 22 := by omega
    rw [Model.timeZhiScan, if_neg hi, List.range'_succ, List.forIn_cons, s5_ge0, s5_le0, s5_lo_toList, s5_hi_toList]
    split
    · rfl
    · have := ih (s + 1) (x + 1) f (by omega) (by omega)
      rwa [show (1 + 2 * ((s + 1 : Nat) : Int)) = 1 + 2 * (s : Int) + 2 by omega] at this

/-- general form: any non-empty key of at most 5 bytes is scanned exactly as the model scans its characters -/
theorem getTimeZhiIndex_scan (hm : String) (hne : hm ≠ "") (hlen : Gen.FnS.strLen hm ≤ 5) :
    Gen.FnS.LunarUtil_GetTimeZhiIndex hm = .ok (Model.timeZhiScan hm.toList 12 1 1) := by
  unfold Gen.FnS.LunarUtil_GetTimeZhiIndex
  simp only [Ne.symm hne, Int.not_lt.2 hlen, decide_false, Bool.false_eq_true, if_false]
  rw [show ((22 - 1 + 1 : Int) / 2).toNat = 11 by decide, forIn_range]
  refine Eq.trans ?_ (s5_scan_loop hm 11 0 1 12 (by decide) (by decide))
  congr 1
  funext ⟨a, b⟩
  cases a <;> rfl

theorem getTimeZhiIndex_empty : Gen.FnS.LunarUtil_GetTimeZhiIndex "" = .ok 0 := by
  unfold Gen.FnS.LunarUtil_GetTimeZhiIndex
  simp [pure, Except.pure]

theorem s5_hm_ne (h mi : Int) : Gen.FnS.fmtPad 2 h ++ ":" ++ Gen.FnS.fmtPad 2 mi ≠ "" := by
  intro e
  simpa [s5_hm_toList, Model.fmtHm] using congrArg String.toList e

theorem s5_hm_len (h mi : Int) (h0 : 0 ≤ h) (h1 : h < 100) (m0 : 0 ≤ mi) (m1 : mi < 100) :
    Gen.FnS.strLen (Gen.FnS.fmtPad 2 h ++ ":" ++ Gen.FnS.fmtPad 2 mi) ≤ 5 := by
  have a := s4_fmtPad_size 2 h (by decide) h0 (by omega)
  have b := s4_fmtPad_size 2 mi (by decide) m0 (by omega)
  unfold Gen.FnS.strLen at *
  rw [String.utf8ByteSize_append, String.utf8ByteSize_append, show ":".utf8ByteSize = 1 from rfl]
  omega

/-- `LunarUtil.GetTimeZhiIndex(fmt.Sprintf("%02d:%02d", h, mi))` = the model's hour-branch index. The guard
(two-digit fields) keeps the key at 5 bytes so that the Go code's `hm[0:5]` truncation is not taken. -/
theorem getTimeZhiIndex_eq' (h mi : Int) (h0 : 0 ≤ h) (h1 : h < 100) (m0 : 0 ≤ mi) (m1 : mi < 100) :
    Gen.FnS.LunarUtil_GetTimeZhiIndex (Gen.FnS.fmtPad 2 h ++ ":" ++ Gen.FnS.fmtPad 2 mi)
      = .ok (Model.timeZhiIndexOf h mi) := by
  rw [getTimeZhiIndex_scan _ (s5_hm_ne h mi) (s5_hm_len h mi h0 h1 m0 m1), s5_hm_toList]
  rfl

theorem getTimeZhiIndex_eq (h mi : Int) (h0 : 0 ≤ h) (h1 : h ≤ 23) (m0 : 0 ≤ mi) (m1 : mi ≤ 59) :
    Gen.FnS.LunarUtil_GetTimeZhiIndex (Gen.FnS.fmtPad 2 h ++ ":" ++ Gen.FnS.fmtPad 2 mi)
      = .ok (Model.timeZhiIndexOf h mi) :=
  getTimeZhiIndex_eq' h mi h0 (by omega) m0 (by omega)

theorem s5_scan_range (hm : List Char) : ∀ (fuel : Nat) (i x : Int),
    Model.timeZhiScan hm fuel i x = 0 ∨
      (x ≤ Model.timeZhiScan hm fuel i x ∧ 2 * Model.timeZhiScan hm fuel i x ≤ 2 * x + 21 - i) := by
  intro fuel
  induction fuel with
  | zero => intro i x; exact Or.inl rfl
  | succ f ih =>
    intro i x
    rw [Model.timeZhiScan]
    split
    · exact Or.inl rfl
    · split
      · exact Or.inr ⟨Int.le_refl _, by omega⟩
      · have := ih (i + 2) (x + 1); omega

/-- the hour-branch index is always one of 0..11 -/
theorem timeZhiScan_range (hm : List Char) :
    0 ≤ Model.timeZhiScan hm 12 1 1 ∧ Model.timeZhiScan hm 12 1 1 < 12 := by
  rcases s5_scan_range hm 12 1 1 with h | h <;> omega

theorem timeZhiIndexOf_range (h mi : Int) : 0 ≤ Model.timeZhiIndexOf h mi ∧ Model.timeZhiIndexOf h mi < 12 :=
  timeZhiScan_range _

/-- `LunarUtil.ConvertTime(hm)` = the branch name of the scanned index (never panics on a short non-empty key) -/
theorem convertTime_scan (hm : String) (hne : hm ≠ "") (hlen : Gen.FnS.strLen hm ≤ 5) :
    Gen.FnS.LunarUtil_ConvertTime hm = .ok (Model.zhiStr (Model.timeZhiScan hm.toList 12 1 1)) := by
  unfold Gen.FnS.LunarUtil_ConvertTime
  have hr := timeZhiScan_range hm.toList
  rw [getTimeZhiIndex_scan hm hne hlen, sb_bind_ok, sidx_ZHI _ (by omega) hr.2]

theorem convertTime_empty : Gen.FnS.LunarUtil_ConvertTime "" = .ok (Model.zhiStr 0) := by
  unfold Gen.FnS.LunarUtil_ConvertTime
  rw [getTimeZhiIndex_empty, sb_bind_ok, sidx_ZHI _ (by decide) (by decide)]

theorem convertTime_eq (h mi : Int) (h0 : 0 ≤ h) (h1 : h < 100) (m0 : 0 ≤ mi) (m1 : mi < 100) :
    Gen.FnS.LunarUtil_ConvertTime (Gen.FnS.fmtPad 2 h ++ ":" ++ Gen.FnS.fmtPad 2 mi)
      = .ok (Model.zhiStr (Model.timeZhiIndexOf h mi)) := by
  rw [convertTime_scan _ (s5_hm_ne h mi) (s5_hm_len h mi h0 h1 m0 m1), s5_hm_toList]; rfl

/-- `computeTime` (string mode: the key is built and scanned by the generated code itself) -/
theorem computeTimeS_raw (l : Gen.FnS.Lunar) (h0 : 0 ≤ l.hour) (h1 : l.hour < 100) (m0 : 0 ≤ l.minute) (m1 : l.minute < 100) :
    Gen.FnS.calendar_computeTime l = .ok { l with
      timeZhiIndex := Model.timeZhiIndexOf l.hour l.minute,
      timeGanIndex := Int.tmod (Int.tmod l.dayGanIndexExact 5 * 2 + Model.timeZhiIndexOf l.hour l.minute) 10 } := by
  unfold Gen.FnS.calendar_computeTime
  dsimp only
  rw [getTimeZhiIndex_eq' _ _ h0 h1 m0 m1]; rfl

/-- against `Model.computeAll`'s formula (`0 ≤ dayGanIndexExact` holds after `computeDay`) -/
theorem computeTimeS_eq (l : Gen.FnS.Lunar) (h0 : 0 ≤ l.hour) (h1 : l.hour < 100) (m0 : 0 ≤ l.minute) (m1 : l.minute < 100)
    (hd : 0 ≤ l.dayGanIndexExact) :
    Gen.FnS.calendar_computeTime l = .ok { l with
      timeZhiIndex := Model.timeZhiIndexOf l.hour l.minute,
      timeGanIndex := (l.dayGanIndexExact % 5 * 2 + Model.timeZhiIndexOf l.hour l.minute) % 10 } := by
  rw [computeTimeS_raw l h0 h1 m0 m1]
  have hz := (timeZhiIndexOf_range l.hour l.minute).1
  have e5 : Int.tmod l.dayGanIndexExact 5 = l.dayGanIndexExact % 5 := Int.tmod_eq_emod_of_nonneg hd
  have h5 : 0 ≤ l.dayGanIndexExact % 5 := Int.emod_nonneg _ (by decide)
  rw [e5, Int.tmod_eq_emod_of_nonneg (by omega)]

end FnSEq
