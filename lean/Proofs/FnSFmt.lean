/-
Proofs.FnSFmt — strings of the string-mode generated code: `%0wd` is the model's `padInt`, hence `Solar.ToYmd` /
`ToYmdHms` / `String` are the model's renderings; the byte length of a string of one-byte characters, in
particular of a padded number. Helpers carry the prefix `s4_`.
-/
import Proofs.FnSBase
import Proofs.FmtOrder

namespace FnSEq
open Gen.Fn (Err)

theorem s4_digitChar : ∀ n < 10, Nat.digitChar n = Model.digitChar n := by decide

theorem s4_fixedDigits_zero (w : Nat) : Model.fixedDigits w 0 = List.replicate w '0' := by
  induction w with
  | zero => rfl
  | succ w ih => exact (congrArg (· ++ ['0']) ih).trans List.replicate_succ'.symm

theorem s4_fixed_core (w n : Nat) (h : n < 10 ^ (w + 1)) :
    List.replicate (w + 1 - (Nat.toDigits 10 n).length) '0' ++ Nat.toDigits 10 n = Model.fixedDigits (w + 1) n := by
  show _ = Model.fixedDigits w (n / 10) ++ [Model.digitChar (n % 10)]
  by_cases hn : n < 10
  · rw [Nat.toDigits_of_lt_base hn, Nat.mod_eq_of_lt hn, s4_digitChar n hn, Nat.div_eq_of_lt hn, s4_fixedDigits_zero]
    rfl
  · match w with
    | 0 => omega
    | w + 1 =>
      rw [Nat.toDigits_eq_if (by omega), if_neg hn, ← s4_fixed_core w (n / 10) (by rw [Nat.pow_succ] at h; omega),
        s4_digitChar _ (Nat.mod_lt _ (by omega)), List.length_append, List.length_singleton, ← List.append_assoc]
      congr 3
      omega
theorem s4_padZero_nat (w n : Nat) (h : 1 ≤ w ∨ 1 ≤ n) :
    (Gen.FnS.padZero w (toString n)).toList = Model.padNat w n := by
  unfold Gen.FnS.padZero Model.padNat
  rw [show toString n = String.ofList (Nat.toDigits 10 n) from rfl, String.toList_append, String.toList_ofList,
    String.toList_ofList, String.length_ofList]
  cases w with
  | zero => rw [if_neg (by omega), Nat.zero_sub]; rfl
  | succ w =>
    split
    next hn => exact s4_fixed_core w n hn
    next hn =>
      -- more than `w + 1` digits: nothing to pad
      have := (not_congr (Nat.length_toDigits_le_iff (b := 10) (n := n) (k := w + 1) (by omega) (by omega))).2 hn
      rw [show w + 1 - (Nat.toDigits 10 n).length = 0 by omega]; rfl

/-- `%0wd`: the generated `fmtPad` is the model's `padInt` (for every width ≥ 1 and every integer) -/
theorem fmtPad_toList (w : Nat) (n : Int) (hw : 1 ≤ w) : (Gen.FnS.fmtPad w n).toList = Model.padInt w n := by
  unfold Gen.FnS.fmtPad Model.padInt
  by_cases hn : n < 0
  · rw [if_pos hn, if_neg (by omega), String.toList_append, show (-n).toNat = n.natAbs by omega,
      s4_padZero_nat _ _ (Or.inr (by omega))]
    rfl
  · rw [if_neg hn, if_pos (by omega), show n.toNat = n.natAbs by omega, s4_padZero_nat _ _ (Or.inl hw)]

theorem fmtPad_eq (w : Nat) (n : Int) (hw : 1 ≤ w) : Gen.FnS.fmtPad w n = String.ofList (Model.padInt w n) := by
  rw [← fmtPad_toList w n hw, String.ofList_toList]

theorem s4_dash : "-".toList = ['-'] := rfl
theorem s4_space : " ".toList = [' '] := rfl
theorem s4_colon : ":".toList = [':'] := rfl

theorem solarToYmd_eq (s : Gen.FnS.Solar) :
    Gen.FnS.calendar_Solar_ToYmd s = .ok (String.ofList (Model.Solar.toYmd (solarToM s))) := by
  refine congrArg Except.ok (String.toList_inj.1 ?_)
  simp only [String.toList_append, String.toList_ofList, fmtPad_toList 4 _ (by decide), fmtPad_toList 2 _ (by decide),
    s4_dash]
  rfl

theorem solarToYmd_toList (s : Gen.FnS.Solar) :
    (Gen.FnS.calendar_Solar_ToYmd s).map String.toList = .ok (Model.Solar.toYmd (solarToM s)) := by
  rw [solarToYmd_eq]; simp [Except.map]

theorem solarToYmdHms_eq (s : Gen.FnS.Solar) :
    Gen.FnS.calendar_Solar_ToYmdHms s = .ok (String.ofList (Model.Solar.toYmdHms (solarToM s))) := by
  unfold Gen.FnS.calendar_Solar_ToYmdHms
  rw [solarToYmd_eq]
  refine congrArg Except.ok (String.toList_inj.1 ?_)
  simp only [String.toList_append, String.toList_ofList, fmtPad_toList 2 _ (by decide), s4_space, s4_colon]
  rfl

theorem solarString_eq (s : Gen.FnS.Solar) :
    Gen.FnS.calendar_Solar_String s = .ok (String.ofList (Model.Solar.toYmd (solarToM s))) :=
  solarToYmd_eq s

def s4_ascii (l : List Char) : Prop := ∀ c ∈ l, c.utf8Size = 1

theorem s4_ascii_size (l : List Char) (h : s4_ascii l) : l.utf8Encode.size = l.length := by
  induction l with
  | nil => rfl
  | cons c l ih =>
    obtain ⟨hc, hl⟩ := List.forall_mem_cons.1 h
    rw [List.utf8Encode_cons, ByteArray.size_append, ih hl, List.utf8Encode_singleton,
      String.utf8EncodeChar_eq_singleton hc, List.size_toByteArray]
    simp; omega

theorem s4_strLen_ascii (l : List Char) (h : s4_ascii l) : Gen.FnS.strLen (String.ofList l) = l.length := by
  unfold Gen.FnS.strLen
  rw [← String.size_toByteArray, String.toByteArray_ofList, s4_ascii_size l h]

theorem s4_fixedDigits_ascii (w n : Nat) : s4_ascii (Model.fixedDigits w n) := by
  induction w generalizing n with
  | zero => exact fun _ h => nomatch h
  | succ w ih =>
    intro c hc
    rcases List.mem_append.1 hc with h | h
    · exact ih _ c h
    · rw [List.mem_singleton.1 h]
      exact (by decide : ∀ k < 10, (Char.ofNat (48 + k)).utf8Size = 1) _ (Nat.mod_lt _ (by decide))

theorem s4_fmtPad_size (w : Nat) (n : Int) (hw : 1 ≤ w) (h0 : 0 ≤ n) (h1 : n.toNat < 10 ^ w) :
    Gen.FnS.strLen (Gen.FnS.fmtPad w n) = w := by
  rw [fmtPad_eq w n hw, Model.padInt_eq w n h0 h1, s4_strLen_ascii _ (s4_fixedDigits_ascii _ _),
    Model.fixedDigits_length]

end FnSEq
