/-
FnS3 — string-mode generated accessors of the EIGHT-CHARACTER object (`Gen.FnS.EightChar`) and of the
hour object (`Gen.FnS.LunarTime`) tied to `Model.EightChar` / `Model.Almanac`.  Both read index fields of a
`Lunar`, so most accessors are instances of the index lemmas of FnSBase, FnS1 and FnS2; `EightChar`'s day
accessors first choose between the `Exact` and `Exact2` fields by the sect (`ite_decide_apply`).  Helpers special
to this file carry the prefix `s3_`.
-/
import Proofs.FnS1
import Proofs.FnS2
namespace FnSEq
open Gen.Fn (Err)

def ecToM (e : Gen.FnS.EightChar) (terms : List Model.Solar) : Model.EightChar := ⟨e.sect, lunarToM e.lunar terms⟩

section
variable (e : Gen.FnS.EightChar) (t : List Model.Solar)
@[simp] theorem ecToM_sect : (ecToM e t).sect = e.sect := rfl
@[simp] theorem ecToM_lunar : (ecToM e t).lunar = lunarToM e.lunar t := rfl
@[simp] theorem ecToM_yearG : (ecToM e t).yearG = e.lunar.yearGanIndexExact := rfl
@[simp] theorem ecToM_yearZ : (ecToM e t).yearZ = e.lunar.yearZhiIndexExact := rfl
@[simp] theorem ecToM_monthG : (ecToM e t).monthG = e.lunar.monthGanIndexExact := rfl
@[simp] theorem ecToM_monthZ : (ecToM e t).monthZ = e.lunar.monthZhiIndexExact := rfl
theorem ecToM_dayG : (ecToM e t).dayG = if e.sect = 2 then e.lunar.dayGanIndexExact2 else e.lunar.dayGanIndexExact := rfl
theorem ecToM_dayZ : (ecToM e t).dayZ = if e.sect = 2 then e.lunar.dayZhiIndexExact2 else e.lunar.dayZhiIndexExact := rfl
@[simp] theorem ecToM_timeG : (ecToM e t).timeG = e.lunar.timeGanIndex := rfl
@[simp] theorem ecToM_timeZ : (ecToM e t).timeZ = e.lunar.timeZhiIndex := rfl
end

section EC
variable (e : Gen.FnS.EightChar) (t : List Model.Solar)

theorem eightCharGetYearGan_eq (g0 : -1 ≤ (ecToM e t).yearG) (g1 : (ecToM e t).yearG < 10) :
    Gen.FnS.calendar_EightChar_GetYearGan e = .ok (Model.ganStr (ecToM e t).yearG) :=
  sidx_GAN _ g0 g1
theorem eightCharGetYearZhi_eq (z0 : -1 ≤ (ecToM e t).yearZ) (z1 : (ecToM e t).yearZ < 12) :
    Gen.FnS.calendar_EightChar_GetYearZhi e = .ok (Model.zhiStr (ecToM e t).yearZ) :=
  sidx_ZHI _ z0 z1
theorem eightCharGetMonthGan_eq (g0 : -1 ≤ (ecToM e t).monthG) (g1 : (ecToM e t).monthG < 10) :
    Gen.FnS.calendar_EightChar_GetMonthGan e = .ok (Model.ganStr (ecToM e t).monthG) :=
  sidx_GAN _ g0 g1
theorem eightCharGetMonthZhi_eq (z0 : -1 ≤ (ecToM e t).monthZ) (z1 : (ecToM e t).monthZ < 12) :
    Gen.FnS.calendar_EightChar_GetMonthZhi e = .ok (Model.zhiStr (ecToM e t).monthZ) :=
  sidx_ZHI _ z0 z1
theorem eightCharGetTimeGan_eq (g0 : -1 ≤ (ecToM e t).timeG) (g1 : (ecToM e t).timeG < 10) :
    Gen.FnS.calendar_EightChar_GetTimeGan e = .ok (Model.ganStr (ecToM e t).timeG) :=
  sidx_GAN _ g0 g1
theorem eightCharGetTimeZhi_eq (z0 : -1 ≤ (ecToM e t).timeZ) (z1 : (ecToM e t).timeZ < 12) :
    Gen.FnS.calendar_EightChar_GetTimeZhi e = .ok (Model.zhiStr (ecToM e t).timeZ) :=
  sidx_ZHI _ z0 z1

/- the day accessors: sect 2 reads the `Exact2` indices of the `Lunar`, any other sect the `Exact` ones; the model's `dayG` / `dayZ`
make the same choice -/
theorem eightCharGetDayGan_eq (g0 : -1 ≤ (ecToM e t).dayG) (g1 : (ecToM e t).dayG < 10) :
    Gen.FnS.calendar_EightChar_GetDayGan e = .ok (Model.ganStr (ecToM e t).dayG) :=
  (ite_decide_apply _ (fun g => Gen.FnS.sidx Gen.Tables.LunarUtil.«GAN» (g + 1)) _ _).trans (sidx_GAN _ g0 g1)

theorem eightCharGetDayZhi_eq (z0 : -1 ≤ (ecToM e t).dayZ) (z1 : (ecToM e t).dayZ < 12) :
    Gen.FnS.calendar_EightChar_GetDayZhi e = .ok (Model.zhiStr (ecToM e t).dayZ) :=
  (ite_decide_apply _ (fun z => Gen.FnS.sidx Gen.Tables.LunarUtil.«ZHI» (z + 1)) _ _).trans (sidx_ZHI _ z0 z1)

/-- `GetDayGanIndex` / `GetDayZhiIndex`: the sect-selected indices (no guard) -/
theorem eightCharGetDayGanIndex_eq : Gen.FnS.calendar_EightChar_GetDayGanIndex e = .ok (ecToM e t).dayG :=
  ite_decide_apply _ Except.ok _ _
theorem eightCharGetDayZhiIndex_eq : Gen.FnS.calendar_EightChar_GetDayZhiIndex e = .ok (ecToM e t).dayZ :=
  ite_decide_apply _ Except.ok _ _

theorem eightCharGetYear_eq (g0 : -1 ≤ (ecToM e t).yearG) (g1 : (ecToM e t).yearG < 10)
    (z0 : -1 ≤ (ecToM e t).yearZ) (z1 : (ecToM e t).yearZ < 12) :
    Gen.FnS.calendar_EightChar_GetYear e = .ok (Model.EightChar.pillarStr (ecToM e t).yearG (ecToM e t).yearZ) :=
  readPillar_eq _ _ g0 g1 z0 z1
theorem eightCharGetMonth_eq (g0 : -1 ≤ (ecToM e t).monthG) (g1 : (ecToM e t).monthG < 10)
    (z0 : -1 ≤ (ecToM e t).monthZ) (z1 : (ecToM e t).monthZ < 12) :
    Gen.FnS.calendar_EightChar_GetMonth e = .ok (Model.EightChar.pillarStr (ecToM e t).monthG (ecToM e t).monthZ) :=
  readPillar_eq _ _ g0 g1 z0 z1
theorem eightCharGetTime_eq (g0 : -1 ≤ (ecToM e t).timeG) (g1 : (ecToM e t).timeG < 10)
    (z0 : -1 ≤ (ecToM e t).timeZ) (z1 : (ecToM e t).timeZ < 12) :
    Gen.FnS.calendar_EightChar_GetTime e = .ok (Model.EightChar.pillarStr (ecToM e t).timeG (ecToM e t).timeZ) :=
  readPillar_eq _ _ g0 g1 z0 z1
theorem eightCharGetDay_eq (g0 : -1 ≤ (ecToM e t).dayG) (g1 : (ecToM e t).dayG < 10)
    (z0 : -1 ≤ (ecToM e t).dayZ) (z1 : (ecToM e t).dayZ < 12) :
    Gen.FnS.calendar_EightChar_GetDay e = .ok (Model.EightChar.pillarStr (ecToM e t).dayG (ecToM e t).dayZ) :=
  (ite_decide_apply₂ _ readPillar _ _ _ _).trans (readPillar_eq _ _ g0 g1 z0 z1)

/-- `EightChar.String` -/
theorem eightCharString_eq
    (yg0 : -1 ≤ (ecToM e t).yearG) (yg1 : (ecToM e t).yearG < 10) (yz0 : -1 ≤ (ecToM e t).yearZ) (yz1 : (ecToM e t).yearZ < 12)
    (mg0 : -1 ≤ (ecToM e t).monthG) (mg1 : (ecToM e t).monthG < 10) (mz0 : -1 ≤ (ecToM e t).monthZ) (mz1 : (ecToM e t).monthZ < 12)
    (dg0 : -1 ≤ (ecToM e t).dayG) (dg1 : (ecToM e t).dayG < 10) (dz0 : -1 ≤ (ecToM e t).dayZ) (dz1 : (ecToM e t).dayZ < 12)
    (tg0 : -1 ≤ (ecToM e t).timeG) (tg1 : (ecToM e t).timeG < 10) (tz0 : -1 ≤ (ecToM e t).timeZ) (tz1 : (ecToM e t).timeZ < 12) :
    Gen.FnS.calendar_EightChar_String e = .ok (
      Model.EightChar.pillarStr (ecToM e t).yearG (ecToM e t).yearZ ++ " " ++
      Model.EightChar.pillarStr (ecToM e t).monthG (ecToM e t).monthZ ++ " " ++
      Model.EightChar.pillarStr (ecToM e t).dayG (ecToM e t).dayZ ++ " " ++
      Model.EightChar.pillarStr (ecToM e t).timeG (ecToM e t).timeZ) := by
  unfold Gen.FnS.calendar_EightChar_String
  rw [eightCharGetYear_eq e t yg0 yg1 yz0 yz1, eightCharGetMonth_eq e t mg0 mg1 mz0 mz1,
    eightCharGetDay_eq e t dg0 dg1 dz0 dz1, eightCharGetTime_eq e t tg0 tg1 tz0 tz1]; rfl

theorem s3_wuXing {x y : Except Err String} {g z : Int} (hx : x = .ok (Model.ganStr g)) (hy : y = .ok (Model.zhiStr z)) :
    (do let t1 ← x
        let t2 ← y
        pure ((Gen.FnS.mlookupS Gen.Tables.LunarUtil.«WU_XING_GAN» t1) ++ (Gen.FnS.mlookupS Gen.Tables.LunarUtil.«WU_XING_ZHI» t2)))
      = Except.ok (Model.EightChar.wuXing g z) := by
  rw [hx, hy, sb_bind_ok, sb_bind_ok, mlookupS_eq_lookupStr, mlookupS_eq_lookupStr]; rfl

theorem eightCharGetYearWuXing_eq (g0 : -1 ≤ (ecToM e t).yearG) (g1 : (ecToM e t).yearG < 10)
    (z0 : -1 ≤ (ecToM e t).yearZ) (z1 : (ecToM e t).yearZ < 12) :
    Gen.FnS.calendar_EightChar_GetYearWuXing e = .ok (Model.EightChar.wuXing (ecToM e t).yearG (ecToM e t).yearZ) :=
  s3_wuXing (eightCharGetYearGan_eq e t g0 g1) (eightCharGetYearZhi_eq e t z0 z1)
theorem eightCharGetMonthWuXing_eq (g0 : -1 ≤ (ecToM e t).monthG) (g1 : (ecToM e t).monthG < 10)
    (z0 : -1 ≤ (ecToM e t).monthZ) (z1 : (ecToM e t).monthZ < 12) :
    Gen.FnS.calendar_EightChar_GetMonthWuXing e = .ok (Model.EightChar.wuXing (ecToM e t).monthG (ecToM e t).monthZ) :=
  s3_wuXing (eightCharGetMonthGan_eq e t g0 g1) (eightCharGetMonthZhi_eq e t z0 z1)
theorem eightCharGetDayWuXing_eq (g0 : -1 ≤ (ecToM e t).dayG) (g1 : (ecToM e t).dayG < 10)
    (z0 : -1 ≤ (ecToM e t).dayZ) (z1 : (ecToM e t).dayZ < 12) :
    Gen.FnS.calendar_EightChar_GetDayWuXing e = .ok (Model.EightChar.wuXing (ecToM e t).dayG (ecToM e t).dayZ) :=
  s3_wuXing (eightCharGetDayGan_eq e t g0 g1) (eightCharGetDayZhi_eq e t z0 z1)
theorem eightCharGetTimeWuXing_eq (g0 : -1 ≤ (ecToM e t).timeG) (g1 : (ecToM e t).timeG < 10)
    (z0 : -1 ≤ (ecToM e t).timeZ) (z1 : (ecToM e t).timeZ < 12) :
    Gen.FnS.calendar_EightChar_GetTimeWuXing e = .ok (Model.EightChar.wuXing (ecToM e t).timeG (ecToM e t).timeZ) :=
  s3_wuXing (eightCharGetTimeGan_eq e t g0 g1) (eightCharGetTimeZhi_eq e t z0 z1)

theorem eightCharGetYearNaYin_eq (g0 : -1 ≤ (ecToM e t).yearG) (g1 : (ecToM e t).yearG < 10)
    (z0 : -1 ≤ (ecToM e t).yearZ) (z1 : (ecToM e t).yearZ < 12) :
    Gen.FnS.calendar_EightChar_GetYearNaYin e = .ok (Model.EightChar.naYin (ecToM e t).yearG (ecToM e t).yearZ) :=
  bind_mlookupS (eightCharGetYear_eq e t g0 g1 z0 z1) _
theorem eightCharGetMonthNaYin_eq (g0 : -1 ≤ (ecToM e t).monthG) (g1 : (ecToM e t).monthG < 10)
    (z0 : -1 ≤ (ecToM e t).monthZ) (z1 : (ecToM e t).monthZ < 12) :
    Gen.FnS.calendar_EightChar_GetMonthNaYin e = .ok (Model.EightChar.naYin (ecToM e t).monthG (ecToM e t).monthZ) :=
  bind_mlookupS (eightCharGetMonth_eq e t g0 g1 z0 z1) _
theorem eightCharGetDayNaYin_eq (g0 : -1 ≤ (ecToM e t).dayG) (g1 : (ecToM e t).dayG < 10)
    (z0 : -1 ≤ (ecToM e t).dayZ) (z1 : (ecToM e t).dayZ < 12) :
    Gen.FnS.calendar_EightChar_GetDayNaYin e = .ok (Model.EightChar.naYin (ecToM e t).dayG (ecToM e t).dayZ) :=
  bind_mlookupS (eightCharGetDay_eq e t g0 g1 z0 z1) _
theorem eightCharGetTimeNaYin_eq (g0 : -1 ≤ (ecToM e t).timeG) (g1 : (ecToM e t).timeG < 10)
    (z0 : -1 ≤ (ecToM e t).timeZ) (z1 : (ecToM e t).timeZ < 12) :
    Gen.FnS.calendar_EightChar_GetTimeNaYin e = .ok (Model.EightChar.naYin (ecToM e t).timeG (ecToM e t).timeZ) :=
  bind_mlookupS (eightCharGetTime_eq e t g0 g1 z0 z1) _

theorem s3_shiShenGan {y : Except Err String} {g : Int} (d0 : -1 ≤ (ecToM e t).dayG) (d1 : (ecToM e t).dayG < 10)
    (hy : y = .ok (Model.ganStr g)) :
    (do let t1 ← Gen.FnS.calendar_EightChar_GetDayGan e
        let t2 ← y
        pure (Gen.FnS.mlookupS Gen.Tables.LunarUtil.«SHI_SHEN» (t1 ++ t2))) = Except.ok ((ecToM e t).shiShenGan g) := by
  rw [eightCharGetDayGan_eq e t d0 d1, hy, sb_bind_ok, sb_bind_ok, mlookupS_eq_lookupStr]; rfl

theorem eightCharGetYearShiShenGan_eq (d0 : -1 ≤ (ecToM e t).dayG) (d1 : (ecToM e t).dayG < 10)
    (g0 : -1 ≤ (ecToM e t).yearG) (g1 : (ecToM e t).yearG < 10) :
    Gen.FnS.calendar_EightChar_GetYearShiShenGan e = .ok ((ecToM e t).shiShenGan (ecToM e t).yearG) :=
  s3_shiShenGan e t d0 d1 (eightCharGetYearGan_eq e t g0 g1)
theorem eightCharGetMonthShiShenGan_eq (d0 : -1 ≤ (ecToM e t).dayG) (d1 : (ecToM e t).dayG < 10)
    (g0 : -1 ≤ (ecToM e t).monthG) (g1 : (ecToM e t).monthG < 10) :
    Gen.FnS.calendar_EightChar_GetMonthShiShenGan e = .ok ((ecToM e t).shiShenGan (ecToM e t).monthG) :=
  s3_shiShenGan e t d0 d1 (eightCharGetMonthGan_eq e t g0 g1)
theorem eightCharGetTimeShiShenGan_eq (d0 : -1 ≤ (ecToM e t).dayG) (d1 : (ecToM e t).dayG < 10)
    (g0 : -1 ≤ (ecToM e t).timeG) (g1 : (ecToM e t).timeG < 10) :
    Gen.FnS.calendar_EightChar_GetTimeShiShenGan e = .ok ((ecToM e t).shiShenGan (ecToM e t).timeG) :=
  s3_shiShenGan e t d0 d1 (eightCharGetTimeGan_eq e t g0 g1)
/-- the day stem's own "ten god" is the constant 日主 (day master), NOT `shiShenGan e e.dayG` (which is 比肩) -/
theorem eightCharGetDayShiShenGan_eq : Gen.FnS.calendar_EightChar_GetDayShiShenGan e = .ok "日主" := rfl

end EC

/-- the index into `CHANG_SHENG` computed by `getDiShi` (the model's `diShi` reads the table there) -/
def s3_diShiIndex (e : Model.EightChar) (zhiIndex : Int) : Int :=
  let base := (Model.lookupS Gen.Tables.calendar.changShengOffset (Model.ganStr e.dayG)).getD 0
  let i := if e.dayG % 2 = 0 then base + zhiIndex else base - zhiIndex
  let i := if i ≥ 12 then i - 12 else i
  if i < 0 then i + 12 else i

theorem s3_diShiIndex_range (e : Model.EightChar) (z : Int) (d0 : -1 ≤ e.dayG) (d1 : e.dayG < 10)
    (z0 : -12 ≤ z) (z1 : z ≤ 12) : 0 ≤ s3_diShiIndex e z ∧ s3_diShiIndex e z < 12 := by
  have hb := forall_range (fun g => 0 ≤ (Model.lookupS Gen.Tables.calendar.changShengOffset (Model.ganStr g)).getD 0 ∧
    (Model.lookupS Gen.Tables.calendar.changShengOffset (Model.ganStr g)).getD 0 ≤ 11) (-1) 11 (by decide) e.dayG d0 (by omega)
  unfold s3_diShiIndex
  generalize (Model.lookupS Gen.Tables.calendar.changShengOffset (Model.ganStr e.dayG)).getD 0 = base at hb ⊢
  simp only []
  split <;> split <;> split <;> omega

section DiShi
variable (e : Gen.FnS.EightChar) (t : List Model.Solar)

theorem s3_getDiShi_total (z : Int) (d0 : -1 ≤ (ecToM e t).dayG) (d1 : (ecToM e t).dayG < 10) :
    Gen.FnS.calendar_EightChar_getDiShi e z =
      Gen.FnS.sidx Gen.Tables.calendar.CHANG_SHENG (s3_diShiIndex (ecToM e t) z) := by
  unfold Gen.FnS.calendar_EightChar_getDiShi s3_diShiIndex
  rw [eightCharGetDayGan_eq e t d0 d1, sb_bind_ok, eightCharGetDayGanIndex_eq e t, sb_bind_ok, mlookupI_eq]
  -- the three adjustments of `index` are the three `if`s of `s3_diShiIndex`, once the tests are spelt alike
  simp only [tmod2_eq_zero, decide_eq_true_eq]
  split <;> split <;> split <;> rfl

/-- private `getDiShi(zhiIndex)`: equal to the model whenever the computed index lies inside the 12-entry table -/
theorem eightCharGetDiShi_eq (z : Int) (d0 : -1 ≤ (ecToM e t).dayG) (d1 : (ecToM e t).dayG < 10)
    (i0 : 0 ≤ s3_diShiIndex (ecToM e t) z) (i1 : s3_diShiIndex (ecToM e t) z < 12) :
    Gen.FnS.calendar_EightChar_getDiShi e z = .ok ((ecToM e t).diShi z) :=
  (s3_getDiShi_total e t z d0 d1).trans (sidx_in _ 12 rfl _ i0 i1)

theorem eightCharGetDiShi_panic (z : Int) (d0 : -1 ≤ (ecToM e t).dayG) (d1 : (ecToM e t).dayG < 10)
    (h : s3_diShiIndex (ecToM e t) z < 0 ∨ 12 ≤ s3_diShiIndex (ecToM e t) z) :
    Gen.FnS.calendar_EightChar_getDiShi e z = .error .panic :=
  (s3_getDiShi_total e t z d0 d1).trans (sidx_out _ 12 rfl _ h)

/-- `getDiShi` with the ranges every library-built object satisfies -/
theorem eightCharGetDiShi_eq' (z : Int) (d0 : -1 ≤ (ecToM e t).dayG) (d1 : (ecToM e t).dayG < 10)
    (z0 : -12 ≤ z) (z1 : z ≤ 12) :
    Gen.FnS.calendar_EightChar_getDiShi e z = .ok ((ecToM e t).diShi z) :=
  have h := s3_diShiIndex_range _ z d0 d1 z0 z1
  eightCharGetDiShi_eq e t z d0 d1 h.1 h.2

theorem eightCharGetYearDiShi_eq (d0 : -1 ≤ (ecToM e t).dayG) (d1 : (ecToM e t).dayG < 10)
    (z0 : -12 ≤ (ecToM e t).yearZ) (z1 : (ecToM e t).yearZ ≤ 12) :
    Gen.FnS.calendar_EightChar_GetYearDiShi e = .ok (ecToM e t).yearDiShi :=
  eightCharGetDiShi_eq' e t _ d0 d1 z0 z1
theorem eightCharGetMonthDiShi_eq (d0 : -1 ≤ (ecToM e t).dayG) (d1 : (ecToM e t).dayG < 10)
    (z0 : -12 ≤ (ecToM e t).monthZ) (z1 : (ecToM e t).monthZ ≤ 12) :
    Gen.FnS.calendar_EightChar_GetMonthDiShi e = .ok (ecToM e t).monthDiShi :=
  eightCharGetDiShi_eq' e t _ d0 d1 z0 z1
/-- after the `fix:` commit the day stage uses the sect-selected branch `dayZ` -/
theorem eightCharGetDayDiShi_eq (d0 : -1 ≤ (ecToM e t).dayG) (d1 : (ecToM e t).dayG < 10)
    (z0 : -12 ≤ (ecToM e t).dayZ) (z1 : (ecToM e t).dayZ ≤ 12) :
    Gen.FnS.calendar_EightChar_GetDayDiShi e = .ok (ecToM e t).dayDiShi := by
  unfold Gen.FnS.calendar_EightChar_GetDayDiShi
  rw [eightCharGetDayZhiIndex_eq e t, sb_bind_ok]; exact eightCharGetDiShi_eq' e t _ d0 d1 z0 z1
theorem eightCharGetTimeDiShi_eq (d0 : -1 ≤ (ecToM e t).dayG) (d1 : (ecToM e t).dayG < 10)
    (z0 : -12 ≤ (ecToM e t).timeZ) (z1 : (ecToM e t).timeZ ≤ 12) :
    Gen.FnS.calendar_EightChar_GetTimeDiShi e = .ok (ecToM e t).timeDiShi :=
  eightCharGetDiShi_eq' e t _ d0 d1 z0 z1
end DiShi

section Tai
variable (e : Gen.FnS.EightChar) (t : List Model.Solar)

/-- `GetTaiYuan`: the guards are exactly those under which the shifted indices stay readable (−1..9 / −1..11) -/
theorem eightCharGetTaiYuan_eq (g0 : -2 ≤ (ecToM e t).monthG) (g1 : (ecToM e t).monthG < 19)
    (z0 : -4 ≤ (ecToM e t).monthZ) (z1 : (ecToM e t).monthZ < 21) :
    Gen.FnS.calendar_EightChar_GetTaiYuan e = .ok (ecToM e t).taiYuan := by
  unfold Gen.FnS.calendar_EightChar_GetTaiYuan Model.EightChar.taiYuan
  simp only [ecToM_monthG, ecToM_monthZ, lunarGetMonthGanIndexExact_eq, lunarGetMonthZhiIndexExact_eq, sb_bind_ok,
    decide_eq_true_eq] at g0 g1 z0 z1 ⊢
  split <;> split <;> simp only [*, if_true, if_false] <;> refine readPillar_eq _ _ ?_ ?_ ?_ ?_ <;> omega

theorem eightCharGetTaiYuanNaYin_eq (g0 : -2 ≤ (ecToM e t).monthG) (g1 : (ecToM e t).monthG < 19)
    (z0 : -4 ≤ (ecToM e t).monthZ) (z1 : (ecToM e t).monthZ < 21) :
    Gen.FnS.calendar_EightChar_GetTaiYuanNaYin e = .ok (Model.lookupStr Gen.Tables.LunarUtil.NAYIN (ecToM e t).taiYuan) :=
  bind_mlookupS (eightCharGetTaiYuan_eq e t g0 g1 z0 z1) _

/-- `GetTaiXi`: `HE_GAN_5` / `HE_ZHI_6` have no leading "" entry, so −1 panics -/
theorem eightCharGetTaiXi_eq (g0 : 0 ≤ (ecToM e t).dayG) (g1 : (ecToM e t).dayG < 10)
    (z0 : 0 ≤ (ecToM e t).dayZ) (z1 : (ecToM e t).dayZ < 12) :
    Gen.FnS.calendar_EightChar_GetTaiXi e = .ok (ecToM e t).taiXi := by
  refine (ite_decide_apply₂ (e.sect = 2) (fun g z => do
    let t5 ← Gen.FnS.sidx Gen.Tables.LunarUtil.«HE_GAN_5» g
    let t6 ← Gen.FnS.sidx Gen.Tables.LunarUtil.«HE_ZHI_6» z
    pure (t5 ++ t6)) _ _ _ _).trans ?_
  rw [← ecToM_dayG e t, ← ecToM_dayZ e t, sidx_in _ 10 rfl _ g0 g1, sidx_in _ 12 rfl _ z0 z1]; rfl

theorem eightCharGetTaiXiNaYin_eq (g0 : 0 ≤ (ecToM e t).dayG) (g1 : (ecToM e t).dayG < 10)
    (z0 : 0 ≤ (ecToM e t).dayZ) (z1 : (ecToM e t).dayZ < 12) :
    Gen.FnS.calendar_EightChar_GetTaiXiNaYin e = .ok (Model.lookupStr Gen.Tables.LunarUtil.NAYIN (ecToM e t).taiXi) :=
  bind_mlookupS (eightCharGetTaiXi_eq e t g0 g1 z0 z1) _

end Tai

/-- the search `for i := 0; i < n; i++ { if s == T[i] { idx = i; break } }` over a whole table is the model's `findIdxD` -/
theorem s3_breakLoop_all (T : List String) (s : String) (n : Nat) (hn : T.length = n) :
    forIn (m := Except Err) [0:n] (0 : Int) (fun (k : Nat) (acc : Int) => do
        let t ← Gen.FnS.sidx T (0 + 1 * (k : Int))
        if decide (Gen.FnS.strCompare s t = 0) = true then pure (ForInStep.done (0 + 1 * (k : Int)))
        else pure (ForInStep.yield acc))
      = .ok (Model.EightChar.findIdxD T s) :=
  forIn_range_search T n hn s 0 (fun i => (i : Int)) _ fun k hk => by
    simp only [Int.zero_add, Int.one_mul, sidx_nat T k hk, sb_bind_ok, strCompare_decide_eq, beq_iff_eq]

theorem s3_findIdxD_range (T : List String) (n : Nat) (hn : T.length = n + 1) (s : String) :
    0 ≤ Model.EightChar.findIdxD T s ∧ Model.EightChar.findIdxD T s ≤ n := by
  unfold Model.EightChar.findIdxD
  cases hf : T.findIdx? (· == s) with
  | none => simp only; omega
  | some i =>
    have := (List.findIdx?_eq_some_iff_getElem.mp hf).1
    simp only; omega

/-- `for g > c { g -= c }` with `k` rounds of fuel (both model helpers `reduceGan`, `reduce12` are instances) -/
def s3_red (c : Int) : Nat → Int → Int
  | 0, g => g
  | k + 1, g => if g ≤ c then g else s3_red c k (g - c)

theorem s3_reduceGan_eq : ∀ (k : Nat) (g : Int), Model.EightChar.reduceGan k g = s3_red 10 k g
  | 0, _ => rfl
  | k + 1, g => by unfold Model.EightChar.reduceGan s3_red; rw [s3_reduceGan_eq k]
theorem s3_reduce12_eq : ∀ (k : Nat) (g : Int), Model.EightChar.reduce12 k g = s3_red 12 k g
  | 0, _ => rfl
  | k + 1, g => by unfold Model.EightChar.reduce12 s3_red; rw [s3_reduce12_eq k]

theorem s3_fuel_step {c g : Int} {k : Nat} (h : g ≤ c * ((k + 1 : Nat) : Int)) : g - c ≤ c * k := by
  rw [Int.natCast_succ, Int.mul_add, Int.mul_one] at h; omega

theorem s3_red_closed (c : Int) (hc : 0 < c) : ∀ (k : Nat) (g : Int), g ≤ c * k →
    s3_red c k g = if g ≤ c then g else (g - 1) % c + 1
  | 0, g, h => by rw [if_pos (by simp at h; omega)]; rfl
  | k + 1, g, h => by
    unfold s3_red
    split
    · rfl
    · rw [s3_red_closed c hc k _ (s3_fuel_step h), ← Int.sub_emod_right (g - 1) c, show g - 1 - c = g - c - 1 by omega]
      split
      · rw [Int.emod_eq_of_lt (by omega) (by omega)]; omega
      · rfl

section
variable (c : Int) (f : Nat → Int × Bool → Except Err (ForInStep (Int × Bool)))
  (hf : ∀ k s, f k s = if decide (s.fst ≤ c) = true then pure (ForInStep.done (s.fst, true))
                       else pure (ForInStep.yield (s.fst - c, s.snd)))
include hf

theorem s3_fuelLoop (k : Nat) : ∀ (start : Nat) (g : Int), g ≤ c * ((k + 1 : Nat) : Int) →
    forIn (List.range' start (k + 1)) ((g, false) : Int × Bool) f = .ok (s3_red c (k + 1) g, true) := by
  induction k with
  | zero =>
    intro start g h
    rw [List.range'_succ, List.forIn_cons, hf, s3_red, if_pos (by simpa using h), if_pos (by simpa using h)]; rfl
  | succ k ih =>
    intro start g h
    rw [List.range'_succ, List.forIn_cons, hf, s3_red]
    by_cases hg : g ≤ c
    · rw [if_pos hg, if_pos (decide_eq_true hg)]; rfl
    · rw [if_neg hg, if_neg (by simpa using hg)]; exact ih (start + 1) (g - c) (s3_fuel_step h)

/-- the loop as the generated code runs it; any sufficient fuel gives what the model's 10 rounds give -/
theorem s3_fuel (hc : 0 < c) (fuel : Nat) (g : Int) (h1 : 1 ≤ fuel) (h : g ≤ c * fuel) (h10 : g ≤ c * (10 : Nat)) :
    forIn [0:fuel] ((g, false) : Int × Bool) f = .ok (s3_red c 10 g, true) := by
  obtain ⟨n, rfl⟩ := Nat.exists_eq_add_of_le' h1
  rw [forIn_range, s3_fuelLoop c f hf n 0 g h, s3_red_closed c hc _ g h, ← s3_red_closed c hc 10 g h10]
end

theorem s3_red_range (c : Int) (hc : 0 < c) (k : Nat) (g : Int) (h0 : 0 ≤ g) (h : g ≤ c * k) :
    0 ≤ s3_red c k g ∧ s3_red c k g ≤ c := by
  rw [s3_red_closed c hc k g h]
  split
  · omega
  · have := Int.emod_nonneg (g - 1) (Int.ne_of_gt hc); have := Int.emod_lt_of_pos (g - 1) hc; omega

/-- the common tail of `GetMingGong` / `GetShenGong`: bring the stem number into 1..10, read the stem and the month-branch names -/
theorem s3_gongTail (fuel : Nat) (g off : Int) (hf1 : 1 ≤ fuel) (hf : g ≤ 10 * fuel) (hg0 : 0 ≤ g) (hg1 : g ≤ 100)
    (o0 : 0 ≤ off) (o1 : off ≤ 12) :
    (do let mut ganIndex : Int := g
        let mut done : Bool := false
        for _ in [0:fuel] do
          if decide (ganIndex ≤ 10) then
            done := true
            break
          ganIndex := (ganIndex - 10)
        if !done then
          throw Err.fuel
        let a ← Gen.FnS.sidx Gen.Tables.LunarUtil.«GAN» ganIndex
        let b ← Gen.FnS.sidx Gen.Tables.calendar.«MONTH_ZHI» off
        return (a ++ b))
      = Except.ok (Model.strGetD Gen.Tables.LunarUtil.GAN (Model.EightChar.reduceGan 10 g)
          ++ Model.strGetD Gen.Tables.calendar.MONTH_ZHI off) := by
  have hr := s3_red_range 10 (by decide) 10 g hg0 (by omega)
  rw [← s3_reduceGan_eq] at hr
  dsimp only
  rw [s3_fuel 10 _ (fun _ _ => rfl) (by decide) fuel g hf1 hf (by omega), sb_bind_ok, ← s3_reduceGan_eq]
  simp only [Bool.not_true, Bool.false_eq_true, if_false]
  rw [sidx_in _ 11 rfl _ hr.1 (by omega), sidx_in _ 13 rfl _ o0 (by omega)]; rfl

/-- the branch offset of `GetMingGong` (always 1..14; 13 and 14 are outside `MONTH_ZHI`) -/
def s3_mgOffset (e : Model.EightChar) : Int :=
  let o := Model.EightChar.findIdxD Gen.Tables.calendar.MONTH_ZHI (Model.zhiStr e.monthZ)
         + Model.EightChar.findIdxD Gen.Tables.calendar.MONTH_ZHI (Model.zhiStr e.timeZ)
  if o ≥ 14 then 26 - o else 14 - o
/-- the stem number of `GetMingGong` before the `for ganIndex > 10` reduction -/
def s3_mgGan0 (e : Model.EightChar) : Int := (e.lunar.yearGanIndexExact + 1) * 2 + s3_mgOffset e

theorem s3_mgOffset_pos (e : Model.EightChar) : 1 ≤ s3_mgOffset e := by
  have hmi := s3_findIdxD_range Gen.Tables.calendar.MONTH_ZHI 12 rfl (Model.zhiStr e.monthZ)
  have hti := s3_findIdxD_range Gen.Tables.calendar.MONTH_ZHI 12 rfl (Model.zhiStr e.timeZ)
  unfold s3_mgOffset; simp only []; split <;> omega

/-- `GetShenGong`: month position in `MONTH_ZHI` plus hour position in `LunarUtil.ZHI` -/
def s3_sgSum (e : Model.EightChar) : Int :=
  Model.EightChar.findIdxD Gen.Tables.calendar.MONTH_ZHI (Model.zhiStr e.monthZ)
    + Model.EightChar.findIdxD Gen.Tables.LunarUtil.ZHI (Model.zhiStr e.timeZ)
def s3_sgOffset (e : Model.EightChar) : Int := Model.EightChar.reduce12 10 (s3_sgSum e)
def s3_sgGan0 (e : Model.EightChar) : Int := (e.lunar.yearGanIndexExact + 1) * 2 + s3_sgOffset e % 12

theorem s3_sgSum_range (e : Model.EightChar) : 0 ≤ s3_sgSum e ∧ s3_sgSum e ≤ 24 := by
  have hmi := s3_findIdxD_range Gen.Tables.calendar.MONTH_ZHI 12 rfl (Model.zhiStr e.monthZ)
  have hti := s3_findIdxD_range Gen.Tables.LunarUtil.ZHI 12 rfl (Model.zhiStr e.timeZ)
  unfold s3_sgSum; omega

theorem s3_sgOffset_range (e : Model.EightChar) : 0 ≤ s3_sgOffset e ∧ s3_sgOffset e ≤ 12 := by
  have h := s3_sgSum_range e
  unfold s3_sgOffset; rw [s3_reduce12_eq]
  exact s3_red_range 12 (by decide) 10 _ h.1 (by omega)

section Gong
variable (e : Gen.FnS.EightChar) (t : List Model.Solar)

theorem eightCharGetMingGong_eq' (fuel : Nat)
    (mz0 : -1 ≤ (ecToM e t).monthZ) (mz1 : (ecToM e t).monthZ < 12)
    (tz0 : -1 ≤ (ecToM e t).timeZ) (tz1 : (ecToM e t).timeZ < 12)
    (ho : s3_mgOffset (ecToM e t) ≤ 12)
    (hg0 : 0 ≤ s3_mgGan0 (ecToM e t)) (hg1 : s3_mgGan0 (ecToM e t) ≤ 100)
    (hf1 : 1 ≤ fuel) (hf : s3_mgGan0 (ecToM e t) ≤ 10 * fuel) :
    Gen.FnS.calendar_EightChar_GetMingGong fuel e = .ok (ecToM e t).mingGong := by
  have o0 := s3_mgOffset_pos (ecToM e t)
  unfold Gen.FnS.calendar_EightChar_GetMingGong
  rw [eightCharGetMonthZhi_eq e t mz0 mz1, eightCharGetTimeZhi_eq e t tz0 tz1]
  simp only [sb_bind_ok, show ((13 - 0 + 0) / 1 : Int).toNat = 13 from rfl]
  rw [s3_breakLoop_all _ _ 13 rfl, sb_bind_ok, s3_breakLoop_all _ _ 13 rfl, sb_bind_ok]
  -- both arms of `if offset ≥ 14` continue with the same tail, at the offset `s3_mgOffset` chooses
  split <;> rename_i h14 <;> simp only [decide_eq_true_eq] at h14
  · rw [← (if_pos h14 : s3_mgOffset (ecToM e t) = _)]
    exact s3_gongTail fuel (s3_mgGan0 (ecToM e t)) (s3_mgOffset (ecToM e t)) hf1 hf hg0 hg1 (by omega) ho
  · rw [← (if_neg h14 : s3_mgOffset (ecToM e t) = _)]
    exact s3_gongTail fuel (s3_mgGan0 (ecToM e t)) (s3_mgOffset (ecToM e t)) hf1 hf hg0 hg1 (by omega) ho

/-- `GetMingGong` on the ranges of every library-built object; 4 rounds of fuel always suffice -/
theorem eightCharGetMingGong_eq (fuel : Nat) (hfuel : 4 ≤ fuel)
    (yg0 : -1 ≤ (ecToM e t).yearG) (yg1 : (ecToM e t).yearG < 10)
    (mz0 : 0 ≤ (ecToM e t).monthZ) (mz1 : (ecToM e t).monthZ < 12)
    (tz0 : 0 ≤ (ecToM e t).timeZ) (tz1 : (ecToM e t).timeZ < 12) :
    Gen.FnS.calendar_EightChar_GetMingGong fuel e = .ok (ecToM e t).mingGong := by
  -- a branch 0..11 stands at one of the positions 1..12 of `MONTH_ZHI`
  have pos := forall_range (fun z => 1 ≤ Model.EightChar.findIdxD Gen.Tables.calendar.MONTH_ZHI (Model.zhiStr z) ∧
    Model.EightChar.findIdxD Gen.Tables.calendar.MONTH_ZHI (Model.zhiStr z) ≤ 12) 0 12 (by decide)
  have hmi := pos _ mz0 mz1
  have hti := pos _ tz0 tz1
  have hyg : (ecToM e t).lunar.yearGanIndexExact = (ecToM e t).yearG := rfl
  have ho : 1 ≤ s3_mgOffset (ecToM e t) ∧ s3_mgOffset (ecToM e t) ≤ 12 := by
    unfold s3_mgOffset; simp only []; split <;> omega
  refine eightCharGetMingGong_eq' e t fuel (by omega) mz1 (by omega) tz1 ho.2 ?_ ?_ (by omega) ?_ <;>
    (unfold s3_mgGan0; rw [hyg]; omega)

theorem eightCharGetMingGongNaYin_eq (fuel : Nat) (hfuel : 4 ≤ fuel)
    (yg0 : -1 ≤ (ecToM e t).yearG) (yg1 : (ecToM e t).yearG < 10)
    (mz0 : 0 ≤ (ecToM e t).monthZ) (mz1 : (ecToM e t).monthZ < 12)
    (tz0 : 0 ≤ (ecToM e t).timeZ) (tz1 : (ecToM e t).timeZ < 12) :
    Gen.FnS.calendar_EightChar_GetMingGongNaYin fuel e
      = .ok (Model.lookupStr Gen.Tables.LunarUtil.NAYIN (ecToM e t).mingGong) :=
  bind_mlookupS (eightCharGetMingGong_eq e t fuel hfuel yg0 yg1 mz0 mz1 tz0 tz1) _

theorem eightCharGetShenGong_eq' (fuel : Nat)
    (mz0 : -1 ≤ (ecToM e t).monthZ) (mz1 : (ecToM e t).monthZ < 12)
    (tz0 : -1 ≤ (ecToM e t).timeZ) (tz1 : (ecToM e t).timeZ < 12)
    (hg0 : 0 ≤ s3_sgGan0 (ecToM e t)) (hg1 : s3_sgGan0 (ecToM e t) ≤ 100)
    (hf2 : 2 ≤ fuel) (hf : s3_sgGan0 (ecToM e t) ≤ 10 * fuel) :
    Gen.FnS.calendar_EightChar_GetShenGong fuel e = .ok (ecToM e t).shenGong := by
  have hsum := s3_sgSum_range (ecToM e t)
  have hoff := s3_sgOffset_range (ecToM e t)
  unfold Gen.FnS.calendar_EightChar_GetShenGong
  rw [eightCharGetMonthZhi_eq e t mz0 mz1, eightCharGetTimeZhi_eq e t tz0 tz1]
  simp only [sb_bind_ok, show ((13 - 0 + 0) / 1 : Int).toNat = 13 from rfl]
  rw [s3_breakLoop_all _ _ 13 rfl, sb_bind_ok, s3_breakLoop_all _ _ 13 rfl, sb_bind_ok,
    show Model.EightChar.findIdxD Gen.Tables.calendar.MONTH_ZHI (Model.zhiStr (ecToM e t).monthZ) +
      Model.EightChar.findIdxD Gen.Tables.LunarUtil.ZHI (Model.zhiStr (ecToM e t).timeZ) = s3_sgSum (ecToM e t) from rfl,
    s3_fuel 12 _ (fun _ _ => rfl) (by decide) fuel (s3_sgSum (ecToM e t)) (by omega) (by omega) (by omega), sb_bind_ok,
    ← s3_reduce12_eq]
  simp only [Bool.not_true, Bool.false_eq_true, if_false]
  rw [show Model.EightChar.reduce12 10 (s3_sgSum (ecToM e t)) = s3_sgOffset (ecToM e t) from rfl,
    Int.tmod_eq_emod_of_nonneg hoff.1]
  exact s3_gongTail fuel (s3_sgGan0 (ecToM e t)) _ (by omega) hf hg0 hg1 hoff.1 hoff.2

/-- `GetShenGong` on the ranges of every library-built object; 4 rounds of fuel always suffice
(the branch ranges are only needed to read the month / hour branch names) -/
theorem eightCharGetShenGong_eq (fuel : Nat) (hfuel : 4 ≤ fuel)
    (yg0 : -1 ≤ (ecToM e t).yearG) (yg1 : (ecToM e t).yearG < 10)
    (mz0 : -1 ≤ (ecToM e t).monthZ) (mz1 : (ecToM e t).monthZ < 12)
    (tz0 : -1 ≤ (ecToM e t).timeZ) (tz1 : (ecToM e t).timeZ < 12) :
    Gen.FnS.calendar_EightChar_GetShenGong fuel e = .ok (ecToM e t).shenGong := by
  have hoff := s3_sgOffset_range (ecToM e t)
  have hyg : (ecToM e t).lunar.yearGanIndexExact = (ecToM e t).yearG := rfl
  refine eightCharGetShenGong_eq' e t fuel mz0 mz1 tz0 tz1 ?_ ?_ (by omega) ?_ <;>
    (unfold s3_sgGan0; rw [hyg]; omega)

theorem eightCharGetShenGongNaYin_eq (fuel : Nat) (hfuel : 4 ≤ fuel)
    (yg0 : -1 ≤ (ecToM e t).yearG) (yg1 : (ecToM e t).yearG < 10)
    (mz0 : -1 ≤ (ecToM e t).monthZ) (mz1 : (ecToM e t).monthZ < 12)
    (tz0 : -1 ≤ (ecToM e t).timeZ) (tz1 : (ecToM e t).timeZ < 12) :
    Gen.FnS.calendar_EightChar_GetShenGongNaYin fuel e
      = .ok (Model.lookupStr Gen.Tables.LunarUtil.NAYIN (ecToM e t).shenGong) :=
  bind_mlookupS (eightCharGetShenGong_eq e t fuel hfuel yg0 yg1 mz0 mz1 tz0 tz1) _
end Gong

section Xun
variable (e : Gen.FnS.EightChar) (t : List Model.Solar)

theorem eightCharGetYearXun_eq (g0 : 0 ≤ (ecToM e t).yearG) (g1 : (ecToM e t).yearG < 10)
    (z0 : 0 ≤ (ecToM e t).yearZ) (z1 : (ecToM e t).yearZ < 12) :
    Gen.FnS.calendar_EightChar_GetYearXun e = .ok (Model.EightChar.xun (ecToM e t).yearG (ecToM e t).yearZ) :=
  xunTable_read _ rfl _ _ g0 g1 z0 z1
theorem eightCharGetYearXunKong_eq (g0 : 0 ≤ (ecToM e t).yearG) (g1 : (ecToM e t).yearG < 10)
    (z0 : 0 ≤ (ecToM e t).yearZ) (z1 : (ecToM e t).yearZ < 12) :
    Gen.FnS.calendar_EightChar_GetYearXunKong e = .ok (Model.EightChar.xunKong (ecToM e t).yearG (ecToM e t).yearZ) :=
  xunTable_read _ rfl _ _ g0 g1 z0 z1
theorem eightCharGetMonthXun_eq (g0 : 0 ≤ (ecToM e t).monthG) (g1 : (ecToM e t).monthG < 10)
    (z0 : 0 ≤ (ecToM e t).monthZ) (z1 : (ecToM e t).monthZ < 12) :
    Gen.FnS.calendar_EightChar_GetMonthXun e = .ok (Model.EightChar.xun (ecToM e t).monthG (ecToM e t).monthZ) :=
  xunTable_read _ rfl _ _ g0 g1 z0 z1
theorem eightCharGetMonthXunKong_eq (g0 : 0 ≤ (ecToM e t).monthG) (g1 : (ecToM e t).monthG < 10)
    (z0 : 0 ≤ (ecToM e t).monthZ) (z1 : (ecToM e t).monthZ < 12) :
    Gen.FnS.calendar_EightChar_GetMonthXunKong e = .ok (Model.EightChar.xunKong (ecToM e t).monthG (ecToM e t).monthZ) :=
  xunTable_read _ rfl _ _ g0 g1 z0 z1
theorem eightCharGetTimeXun_eq (g0 : 0 ≤ (ecToM e t).timeG) (g1 : (ecToM e t).timeG < 10)
    (z0 : 0 ≤ (ecToM e t).timeZ) (z1 : (ecToM e t).timeZ < 12) :
    Gen.FnS.calendar_EightChar_GetTimeXun e = .ok (Model.EightChar.xun (ecToM e t).timeG (ecToM e t).timeZ) :=
  xunTable_read _ rfl _ _ g0 g1 z0 z1
theorem eightCharGetTimeXunKong_eq (g0 : 0 ≤ (ecToM e t).timeG) (g1 : (ecToM e t).timeG < 10)
    (z0 : 0 ≤ (ecToM e t).timeZ) (z1 : (ecToM e t).timeZ < 12) :
    Gen.FnS.calendar_EightChar_GetTimeXunKong e = .ok (Model.EightChar.xunKong (ecToM e t).timeG (ecToM e t).timeZ) :=
  xunTable_read _ rfl _ _ g0 g1 z0 z1

theorem eightCharGetDayXun_eq (g0 : 0 ≤ (ecToM e t).dayG) (g1 : (ecToM e t).dayG < 10)
    (z0 : 0 ≤ (ecToM e t).dayZ) (z1 : (ecToM e t).dayZ < 12) :
    Gen.FnS.calendar_EightChar_GetDayXun e = .ok (Model.EightChar.xun (ecToM e t).dayG (ecToM e t).dayZ) :=
  (ite_decide_apply₂ _ (fun g z => readPillar g z >>= Gen.FnS.LunarUtil_GetXun) _ _ _ _).trans
    (xunTable_read _ rfl _ _ g0 g1 z0 z1)
theorem eightCharGetDayXunKong_eq (g0 : 0 ≤ (ecToM e t).dayG) (g1 : (ecToM e t).dayG < 10)
    (z0 : 0 ≤ (ecToM e t).dayZ) (z1 : (ecToM e t).dayZ < 12) :
    Gen.FnS.calendar_EightChar_GetDayXunKong e = .ok (Model.EightChar.xunKong (ecToM e t).dayG (ecToM e t).dayZ) :=
  (ite_decide_apply₂ _ (fun g z => readPillar g z >>= Gen.FnS.LunarUtil_GetXunKong) _ _ _ _).trans
    (xunTable_read _ rfl _ _ g0 g1 z0 z1)
end Xun

section Misc
variable (e : Gen.FnS.EightChar) (t : List Model.Solar)
@[simp] theorem eightCharGetSect_eq : Gen.FnS.calendar_EightChar_GetSect e = .ok (ecToM e t).sect := rfl
@[simp] theorem eightCharGetLunar_eq : Gen.FnS.calendar_EightChar_GetLunar e = .ok e.lunar := rfl
/-- `SetSect`: anything but 1 becomes 2 (`Model.mkEightChar`) -/
theorem eightCharSetSect_eq (sect : Int) :
    (Gen.FnS.calendar_EightChar_SetSect e sect).map (fun r => ecToM r t)
      = .ok (Model.mkEightChar (lunarToM e.lunar t) sect) := by
  unfold Gen.FnS.calendar_EightChar_SetSect Model.mkEightChar
  by_cases hs : sect = 1
  · subst hs; rfl
  · have hb : (sect != 1) = true := by simpa using hs
    simp only [hs, hb, ne_eq, not_false_eq_true, decide_true, if_true]; rfl
end Misc

/-! The hour object `LunarTime` — second route of the route-agreement property: every accessor is the SAME model
function (`Model.positionXi`, `Model.chong`, `Model.tianShen` …) that the `Lunar.GetTimeX` accessors use, applied to the
object's own `ganIndex` / `zhiIndex` (and the day branch `lunar.dayZhiIndexExact` for the heavenly spirit). -/

section LT
variable (lt : Gen.FnS.LunarTime)

@[simp] theorem lunarTimeGetGanIndex_eq : Gen.FnS.calendar_LunarTime_GetGanIndex lt = .ok lt.ganIndex := rfl

theorem lunarTimeGetGan_eq (g0 : -1 ≤ lt.ganIndex) (g1 : lt.ganIndex < 10) :
    Gen.FnS.calendar_LunarTime_GetGan lt = .ok (Model.ganStr lt.ganIndex) :=
  sidx_GAN _ g0 g1
theorem lunarTimeGetGan_panic (h : lt.ganIndex < -1 ∨ 10 ≤ lt.ganIndex) :
    Gen.FnS.calendar_LunarTime_GetGan lt = .error .panic :=
  sidx_GAN_panic _ h
theorem lunarTimeGetZhi_eq (z0 : -1 ≤ lt.zhiIndex) (z1 : lt.zhiIndex < 12) :
    Gen.FnS.calendar_LunarTime_GetZhi lt = .ok (Model.zhiStr lt.zhiIndex) :=
  sidx_ZHI _ z0 z1
theorem lunarTimeGetZhi_panic (h : lt.zhiIndex < -1 ∨ 12 ≤ lt.zhiIndex) :
    Gen.FnS.calendar_LunarTime_GetZhi lt = .error .panic :=
  sidx_ZHI_panic _ h
theorem lunarTimeGetGanZhi_eq (g0 : -1 ≤ lt.ganIndex) (g1 : lt.ganIndex < 10) (z0 : -1 ≤ lt.zhiIndex) (z1 : lt.zhiIndex < 12) :
    Gen.FnS.calendar_LunarTime_GetGanZhi lt = .ok (Model.EightChar.pillarStr lt.ganIndex lt.zhiIndex) :=
  readPillar_eq _ _ g0 g1 z0 z1

theorem lunarTimeGetShengXiao_eq (z0 : -1 ≤ lt.zhiIndex) (z1 : lt.zhiIndex < 12) :
    Gen.FnS.calendar_LunarTime_GetShengXiao lt = .ok (Model.shengXiao lt.zhiIndex) :=
  sidx_succ _ 12 rfl _ z0 z1
theorem lunarTimeGetShengXiao_panic (h : lt.zhiIndex < -1 ∨ 12 ≤ lt.zhiIndex) :
    Gen.FnS.calendar_LunarTime_GetShengXiao lt = .error .panic :=
  sidx_succ_out _ 12 rfl _ h

theorem lunarTimeGetPositionXi_eq (g0 : -1 ≤ lt.ganIndex) (g1 : lt.ganIndex < 10) :
    Gen.FnS.calendar_LunarTime_GetPositionXi lt = .ok (Model.positionXi lt.ganIndex) :=
  sidx_succ _ 10 rfl _ g0 g1
theorem lunarTimeGetPositionXi_panic (h : lt.ganIndex < -1 ∨ 10 ≤ lt.ganIndex) :
    Gen.FnS.calendar_LunarTime_GetPositionXi lt = .error .panic :=
  sidx_succ_out _ 10 rfl _ h
theorem lunarTimeGetPositionXiDesc_eq (g0 : -1 ≤ lt.ganIndex) (g1 : lt.ganIndex < 10) :
    Gen.FnS.calendar_LunarTime_GetPositionXiDesc lt = .ok (Model.positionDesc (Model.positionXi lt.ganIndex)) :=
  bind_mlookupS (lunarTimeGetPositionXi_eq lt g0 g1) _

theorem lunarTimeGetPositionYangGui_eq (g0 : -1 ≤ lt.ganIndex) (g1 : lt.ganIndex < 10) :
    Gen.FnS.calendar_LunarTime_GetPositionYangGui lt = .ok (Model.positionYangGui lt.ganIndex) :=
  sidx_succ _ 10 rfl _ g0 g1
theorem lunarTimeGetPositionYangGui_panic (h : lt.ganIndex < -1 ∨ 10 ≤ lt.ganIndex) :
    Gen.FnS.calendar_LunarTime_GetPositionYangGui lt = .error .panic :=
  sidx_succ_out _ 10 rfl _ h
theorem lunarTimeGetPositionYangGuiDesc_eq (g0 : -1 ≤ lt.ganIndex) (g1 : lt.ganIndex < 10) :
    Gen.FnS.calendar_LunarTime_GetPositionYangGuiDesc lt = .ok (Model.positionDesc (Model.positionYangGui lt.ganIndex)) :=
  bind_mlookupS (lunarTimeGetPositionYangGui_eq lt g0 g1) _

theorem lunarTimeGetPositionYinGui_eq (g0 : -1 ≤ lt.ganIndex) (g1 : lt.ganIndex < 10) :
    Gen.FnS.calendar_LunarTime_GetPositionYinGui lt = .ok (Model.positionYinGui lt.ganIndex) :=
  sidx_succ _ 10 rfl _ g0 g1
theorem lunarTimeGetPositionYinGui_panic (h : lt.ganIndex < -1 ∨ 10 ≤ lt.ganIndex) :
    Gen.FnS.calendar_LunarTime_GetPositionYinGui lt = .error .panic :=
  sidx_succ_out _ 10 rfl _ h
theorem lunarTimeGetPositionYinGuiDesc_eq (g0 : -1 ≤ lt.ganIndex) (g1 : lt.ganIndex < 10) :
    Gen.FnS.calendar_LunarTime_GetPositionYinGuiDesc lt = .ok (Model.positionDesc (Model.positionYinGui lt.ganIndex)) :=
  bind_mlookupS (lunarTimeGetPositionYinGui_eq lt g0 g1) _

theorem lunarTimeGetPositionCai_eq (g0 : -1 ≤ lt.ganIndex) (g1 : lt.ganIndex < 10) :
    Gen.FnS.calendar_LunarTime_GetPositionCai lt = .ok (Model.positionCai lt.ganIndex) :=
  sidx_succ _ 10 rfl _ g0 g1
theorem lunarTimeGetPositionCai_panic (h : lt.ganIndex < -1 ∨ 10 ≤ lt.ganIndex) :
    Gen.FnS.calendar_LunarTime_GetPositionCai lt = .error .panic :=
  sidx_succ_out _ 10 rfl _ h
theorem lunarTimeGetPositionCaiDesc_eq (g0 : -1 ≤ lt.ganIndex) (g1 : lt.ganIndex < 10) :
    Gen.FnS.calendar_LunarTime_GetPositionCaiDesc lt = .ok (Model.positionDesc (Model.positionCai lt.ganIndex)) :=
  bind_mlookupS (lunarTimeGetPositionCai_eq lt g0 g1) _

/-- `GetPositionFuBySect(sect)`: school 1 reads `POSITION_FU`, every other value `POSITION_FU_2` -/
theorem lunarTimeGetPositionFuBySect_eq (sect : Int) (g0 : -1 ≤ lt.ganIndex) (g1 : lt.ganIndex < 10) :
    Gen.FnS.calendar_LunarTime_GetPositionFuBySect lt sect = .ok (Model.positionFu lt.ganIndex sect) :=
  positionFu_read _ sect g0 g1
theorem lunarTimeGetPositionFuBySect_panic (sect : Int) (h : lt.ganIndex < -1 ∨ 10 ≤ lt.ganIndex) :
    Gen.FnS.calendar_LunarTime_GetPositionFuBySect lt sect = .error .panic :=
  positionFu_panic _ sect h
theorem lunarTimeGetPositionFu_eq (g0 : -1 ≤ lt.ganIndex) (g1 : lt.ganIndex < 10) :
    Gen.FnS.calendar_LunarTime_GetPositionFu lt = .ok (Model.positionFu lt.ganIndex 2) :=
  lunarTimeGetPositionFuBySect_eq lt 2 g0 g1
theorem lunarTimeGetPositionFuDescBySect_eq (sect : Int) (g0 : -1 ≤ lt.ganIndex) (g1 : lt.ganIndex < 10) :
    Gen.FnS.calendar_LunarTime_GetPositionFuDescBySect lt sect
      = .ok (Model.positionDesc (Model.positionFu lt.ganIndex sect)) :=
  bind_mlookupS (lunarTimeGetPositionFuBySect_eq lt sect g0 g1) _
theorem lunarTimeGetPositionFuDesc_eq (g0 : -1 ≤ lt.ganIndex) (g1 : lt.ganIndex < 10) :
    Gen.FnS.calendar_LunarTime_GetPositionFuDesc lt = .ok (Model.positionDesc (Model.positionFu lt.ganIndex 2)) :=
  lunarTimeGetPositionFuDescBySect_eq lt 2 g0 g1

theorem lunarTimeGetNaYin_eq (g0 : -1 ≤ lt.ganIndex) (g1 : lt.ganIndex < 10) (z0 : -1 ≤ lt.zhiIndex) (z1 : lt.zhiIndex < 12) :
    Gen.FnS.calendar_LunarTime_GetNaYin lt = .ok (Model.naYinOf lt.ganIndex lt.zhiIndex) :=
  naYin_read _ _ g0 g1 z0 z1
theorem lunarTimeGetSha_eq (z0 : -1 ≤ lt.zhiIndex) (z1 : lt.zhiIndex < 12) :
    Gen.FnS.calendar_LunarTime_GetSha lt = .ok (Model.sha lt.zhiIndex) :=
  sha_read _ z0 z1

/- clash: the tables `CHONG` (12), `CHONG_GAN`, `CHONG_GAN_TIE` (10) have NO leading "" entry: index −1 panics -/
theorem lunarTimeGetChong_eq (z0 : 0 ≤ lt.zhiIndex) (z1 : lt.zhiIndex < 12) :
    Gen.FnS.calendar_LunarTime_GetChong lt = .ok (Model.chong lt.zhiIndex) :=
  sidx_in _ 12 rfl _ z0 z1
theorem lunarTimeGetChong_panic (h : lt.zhiIndex < 0 ∨ 12 ≤ lt.zhiIndex) :
    Gen.FnS.calendar_LunarTime_GetChong lt = .error .panic :=
  sidx_out _ 12 rfl _ h
theorem lunarTimeGetChongGan_eq (g0 : 0 ≤ lt.ganIndex) (g1 : lt.ganIndex < 10) :
    Gen.FnS.calendar_LunarTime_GetChongGan lt = .ok (Model.chongGan lt.ganIndex) :=
  sidx_in _ 10 rfl _ g0 g1
theorem lunarTimeGetChongGan_panic (h : lt.ganIndex < 0 ∨ 10 ≤ lt.ganIndex) :
    Gen.FnS.calendar_LunarTime_GetChongGan lt = .error .panic :=
  sidx_out _ 10 rfl _ h
theorem lunarTimeGetChongGanTie_eq (g0 : 0 ≤ lt.ganIndex) (g1 : lt.ganIndex < 10) :
    Gen.FnS.calendar_LunarTime_GetChongGanTie lt = .ok (Model.chongGanTie lt.ganIndex) :=
  sidx_in _ 10 rfl _ g0 g1
theorem lunarTimeGetChongGanTie_panic (h : lt.ganIndex < 0 ∨ 10 ≤ lt.ganIndex) :
    Gen.FnS.calendar_LunarTime_GetChongGanTie lt = .error .panic :=
  sidx_out _ 10 rfl _ h
theorem lunarTimeGetChongShengXiao_eq (z0 : 0 ≤ lt.zhiIndex) (z1 : lt.zhiIndex < 12) :
    Gen.FnS.calendar_LunarTime_GetChongShengXiao lt = .ok (Model.chongShengXiao lt.zhiIndex) :=
  chongShengXiao_read _ z0 z1
theorem lunarTimeGetChongDesc_eq (g0 : 0 ≤ lt.ganIndex) (g1 : lt.ganIndex < 10) (z0 : 0 ≤ lt.zhiIndex) (z1 : lt.zhiIndex < 12) :
    Gen.FnS.calendar_LunarTime_GetChongDesc lt = .ok (Model.chongDesc lt.ganIndex lt.zhiIndex) :=
  chongDesc_read _ _ g0 g1 z0 z1

/-- `GetTianShen`: Go's truncating `%` equals the model's `%` as soon as `zhiIndex + offset ≥ 0` -/
theorem lunarTimeGetTianShen_eq' (d0 : -1 ≤ lt.lunar.dayZhiIndexExact) (d1 : lt.lunar.dayZhiIndexExact < 12)
    (h : 0 ≤ lt.zhiIndex + (Model.lookupS Gen.Tables.LunarUtil.ZHI_TIAN_SHEN_OFFSET (Model.zhiStr lt.lunar.dayZhiIndexExact)).getD 0) :
    Gen.FnS.calendar_LunarTime_GetTianShen lt = .ok (Model.tianShen lt.zhiIndex lt.lunar.dayZhiIndexExact) :=
  tianShen_read _ _ d0 d1 h

theorem lunarTimeGetTianShen_eq (z0 : 0 ≤ lt.zhiIndex) (d0 : -1 ≤ lt.lunar.dayZhiIndexExact) (d1 : lt.lunar.dayZhiIndexExact < 12) :
    Gen.FnS.calendar_LunarTime_GetTianShen lt = .ok (Model.tianShen lt.zhiIndex lt.lunar.dayZhiIndexExact) :=
  lunarTimeGetTianShen_eq' lt d0 d1 (Int.add_nonneg z0 (s2_tianShenOffset_nonneg _))

theorem lunarTimeGetTianShenType_eq (z0 : 0 ≤ lt.zhiIndex) (d0 : -1 ≤ lt.lunar.dayZhiIndexExact) (d1 : lt.lunar.dayZhiIndexExact < 12) :
    Gen.FnS.calendar_LunarTime_GetTianShenType lt
      = .ok (Model.tianShenType (Model.tianShen lt.zhiIndex lt.lunar.dayZhiIndexExact)) :=
  bind_mlookupS (lunarTimeGetTianShen_eq lt z0 d0 d1) _

theorem lunarTimeGetTianShenLuck_eq (z0 : 0 ≤ lt.zhiIndex) (d0 : -1 ≤ lt.lunar.dayZhiIndexExact) (d1 : lt.lunar.dayZhiIndexExact < 12) :
    Gen.FnS.calendar_LunarTime_GetTianShenLuck lt
      = .ok (Model.tianShenLuck (Model.tianShen lt.zhiIndex lt.lunar.dayZhiIndexExact)) :=
  bind_mlookupS (lunarTimeGetTianShenType_eq lt z0 d0 d1) _

theorem lunarTimeGetXun_eq (g0 : 0 ≤ lt.ganIndex) (g1 : lt.ganIndex < 10) (z0 : 0 ≤ lt.zhiIndex) (z1 : lt.zhiIndex < 12) :
    Gen.FnS.calendar_LunarTime_GetXun lt = .ok (Model.EightChar.xun lt.ganIndex lt.zhiIndex) :=
  xunTable_read _ rfl _ _ g0 g1 z0 z1
theorem lunarTimeGetXunKong_eq (g0 : 0 ≤ lt.ganIndex) (g1 : lt.ganIndex < 10) (z0 : 0 ≤ lt.zhiIndex) (z1 : lt.zhiIndex < 12) :
    Gen.FnS.calendar_LunarTime_GetXunKong lt = .ok (Model.EightChar.xunKong lt.ganIndex lt.zhiIndex) :=
  xunTable_read _ rfl _ _ g0 g1 z0 z1

end LT

section Axioms
#print axioms eightCharGetYear_eq
#print axioms eightCharGetMonth_eq
#print axioms eightCharGetDay_eq
#print axioms eightCharGetTime_eq
#print axioms eightCharString_eq
#print axioms eightCharGetYearGan_eq
#print axioms eightCharGetYearZhi_eq
#print axioms eightCharGetMonthGan_eq
#print axioms eightCharGetMonthZhi_eq
#print axioms eightCharGetDayGan_eq
#print axioms eightCharGetDayZhi_eq
#print axioms eightCharGetTimeGan_eq
#print axioms eightCharGetTimeZhi_eq
#print axioms eightCharGetDayGanIndex_eq
#print axioms eightCharGetDayZhiIndex_eq
#print axioms eightCharGetYearWuXing_eq
#print axioms eightCharGetMonthWuXing_eq
#print axioms eightCharGetDayWuXing_eq
#print axioms eightCharGetTimeWuXing_eq
#print axioms eightCharGetYearNaYin_eq
#print axioms eightCharGetMonthNaYin_eq
#print axioms eightCharGetDayNaYin_eq
#print axioms eightCharGetTimeNaYin_eq
#print axioms eightCharGetYearShiShenGan_eq
#print axioms eightCharGetMonthShiShenGan_eq
#print axioms eightCharGetDayShiShenGan_eq
#print axioms eightCharGetTimeShiShenGan_eq
#print axioms eightCharGetDiShi_eq
#print axioms eightCharGetDiShi_panic
#print axioms eightCharGetDiShi_eq'
#print axioms eightCharGetYearDiShi_eq
#print axioms eightCharGetMonthDiShi_eq
#print axioms eightCharGetDayDiShi_eq
#print axioms eightCharGetTimeDiShi_eq
#print axioms eightCharGetYearXun_eq
#print axioms eightCharGetYearXunKong_eq
#print axioms eightCharGetMonthXun_eq
#print axioms eightCharGetMonthXunKong_eq
#print axioms eightCharGetDayXun_eq
#print axioms eightCharGetDayXunKong_eq
#print axioms eightCharGetTimeXun_eq
#print axioms eightCharGetTimeXunKong_eq
#print axioms eightCharGetTaiYuan_eq
#print axioms eightCharGetTaiYuanNaYin_eq
#print axioms eightCharGetTaiXi_eq
#print axioms eightCharGetTaiXiNaYin_eq
#print axioms eightCharGetMingGong_eq'
#print axioms eightCharGetMingGong_eq
#print axioms eightCharGetMingGongNaYin_eq
#print axioms eightCharGetShenGong_eq'
#print axioms eightCharGetShenGong_eq
#print axioms eightCharGetShenGongNaYin_eq
#print axioms eightCharSetSect_eq
#print axioms lunarTimeGetGan_eq
#print axioms lunarTimeGetZhi_eq
#print axioms lunarTimeGetGanZhi_eq
#print axioms lunarTimeGetShengXiao_eq
#print axioms lunarTimeGetPositionXi_eq
#print axioms lunarTimeGetPositionXiDesc_eq
#print axioms lunarTimeGetPositionYangGui_eq
#print axioms lunarTimeGetPositionYangGuiDesc_eq
#print axioms lunarTimeGetPositionYinGui_eq
#print axioms lunarTimeGetPositionYinGuiDesc_eq
#print axioms lunarTimeGetPositionFuBySect_eq
#print axioms lunarTimeGetPositionFu_eq
#print axioms lunarTimeGetPositionFuDescBySect_eq
#print axioms lunarTimeGetPositionFuDesc_eq
#print axioms lunarTimeGetPositionCai_eq
#print axioms lunarTimeGetPositionCaiDesc_eq
#print axioms lunarTimeGetNaYin_eq
#print axioms lunarTimeGetSha_eq
#print axioms lunarTimeGetTianShen_eq'
#print axioms lunarTimeGetTianShen_eq
#print axioms lunarTimeGetTianShenType_eq
#print axioms lunarTimeGetTianShenLuck_eq
#print axioms lunarTimeGetChong_eq
#print axioms lunarTimeGetChongGan_eq
#print axioms lunarTimeGetChongGanTie_eq
#print axioms lunarTimeGetChongShengXiao_eq
#print axioms lunarTimeGetChongDesc_eq
#print axioms lunarTimeGetXun_eq
#print axioms lunarTimeGetXunKong_eq
#print axioms lunarTimeGetPositionFuBySect_panic
#print axioms lunarTimeGetChong_panic
end Axioms
end FnSEq
