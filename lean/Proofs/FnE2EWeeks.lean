/-
Proofs.FnE2EWeeks — end-to-end corollaries on the generated `SolarUtil.GetWeeksOfMonth`, obtained by composing
`FnEq.getWeeksOfMonth_eq'` with the statements of Proofs.WeekSpec: closed form, number of week rows of
`SolarMonth.GetWeeks`, index of the month's last day, range 3..6.
-/
import Proofs.WeekSpec
import Proofs.FnWeek
-- `getWeeksOfMonth_rows` keeps two hypotheses its proof does not need
set_option linter.unusedVariables false

namespace FnE2E

open FnEq

/-- `SolarUtil.GetWeeksOfMonth` in closed form (`Model.weeksOfMonth_eq`): the number of 7-day rows
needed for the month's days after the lead-in offset of its first day.  Atom `a1` =
`GetWeek(year, month, 1)`. -/
theorem getWeeksOfMonth_closed (a1 y m start : Int) (h1 : 1 ≤ m) (h12 : m ≤ 12)
    (ha : a1 = Model.week y m 1) (hs : 0 ≤ start ∧ start ≤ 6) :
    Gen.Fn.SolarUtil_GetWeeksOfMonth a1 y m start =
      .ok ((Model.daysOfMonth y m + (Model.jdn y m 1 + 7000001 - start) % 7 + 6) / 7) := by
  rw [getWeeksOfMonth_eq' a1 y m start h1 h12 ha, Model.weeksOfMonth_eq y m start hs]

/-- for every month (`Model.monthWeeks_rows`) -/
theorem getWeeksOfMonth_rows_all (a1 y m start : Int) (h1 : 1 ≤ m) (h12 : m ≤ 12)
    (ha : a1 = Model.week y m 1) (hs : 0 ≤ start ∧ start ≤ 6) :
    ∃ rows : List Model.SolarWeek, Model.monthWeeks y m start = some rows ∧
      Gen.Fn.SolarUtil_GetWeeksOfMonth a1 y m start = .ok (rows.length : Int) ∧
      ∀ i : Nat, i < rows.length → ∃ w, rows[i]? = some w ∧ w.start = start ∧
        (∃ f, w.firstDay = some f ∧ f.jdn =
          (match (Model.SolarWeek.mk y m 1 start).firstDay with
            | some f0 => f0.jdn | none => 0) + 7 * i) := by
  obtain ⟨l, el, hlen, hget⟩ := Model.monthWeeks_rows y m start ⟨h1, h12⟩ hs
  exact ⟨l, el, by rw [getWeeksOfMonth_eq' a1 y m start h1 h12 ha, hlen], hget⟩

/-- `SolarUtil.GetWeeksOfMonth` is the number of week rows `SolarMonth.GetWeeks(start)` lists, and the rows start
7 days apart from the first row's first day; `hy` and `hn` are not needed (`getWeeksOfMonth_rows_all`) -/
theorem getWeeksOfMonth_rows (a1 y m start : Int) (h1 : 1 ≤ m) (h12 : m ≤ 12)
    (ha : a1 = Model.week y m 1) (hy : 1 ≤ y) (hn : ¬ (y = 1582 ∧ m = 10))
    (hs : 0 ≤ start ∧ start ≤ 6) :
    ∃ rows : List Model.SolarWeek, Model.monthWeeks y m start = some rows ∧
      Gen.Fn.SolarUtil_GetWeeksOfMonth a1 y m start = .ok (rows.length : Int) ∧
      ∀ i : Nat, i < rows.length → ∃ w, rows[i]? = some w ∧ w.start = start ∧
        (∃ f, w.firstDay = some f ∧ f.jdn =
          (match (Model.SolarWeek.mk y m 1 start).firstDay with
            | some f0 => f0.jdn | none => 0) + 7 * i) :=
  getWeeksOfMonth_rows_all a1 y m start h1 h12 ha hs

/-- the case that `getWeeksOfMonth_rows` leaves out: the row count for October 1582 -/
theorem getWeeksOfMonth_rows_1582 (a1 start : Int) (ha : a1 = Model.week 1582 10 1)
    (hs : 0 ≤ start ∧ start ≤ 6) :
    ∃ rows : List Model.SolarWeek, Model.monthWeeks 1582 10 start = some rows ∧
      Gen.Fn.SolarUtil_GetWeeksOfMonth a1 1582 10 start = .ok (rows.length : Int) :=
  let ⟨l, el, hlen, _⟩ := getWeeksOfMonth_rows_all a1 1582 10 start (by decide) (by decide) ha hs
  ⟨l, el, hlen⟩

/-- `GetWeeksOfMonth` is the week-in-month index of the month's last day
(`Model.weeksOfMonth_eq_last_index_partial`, all months except October 1582). -/
theorem getWeeksOfMonth_last_index (a1 y m start : Int) (h1 : 1 ≤ m) (h12 : m ≤ 12)
    (ha : a1 = Model.week y m 1) (hn : ¬ (y = 1582 ∧ m = 10)) :
    Gen.Fn.SolarUtil_GetWeeksOfMonth a1 y m start =
      .ok (Model.SolarWeek.mk y m (Model.daysOfMonth y m) start).index := by
  rw [getWeeksOfMonth_eq' a1 y m start h1 h12 ha,
    Model.weeksOfMonth_eq_last_index_partial y m start hn]

/-- … and for October 1582 (21 existing days, last day numbered 31). -/
theorem getWeeksOfMonth_last_index_1582 (a1 start : Int) (ha : a1 = Model.week 1582 10 1) :
    Gen.Fn.SolarUtil_GetWeeksOfMonth a1 1582 10 start =
      .ok (Model.SolarWeek.mk 1582 10 31 start).index := by
  rw [getWeeksOfMonth_eq' a1 1582 10 start (by decide) (by decide) ha,
    Model.weeksOfMonth_eq_last_index_1582 start]

/-- a month has between 3 and 6 week rows (3 occurs: October 1582 has 21 days and begins on a
Monday, so with `start = 1` it fills exactly three rows; `Model.daysOfMonth_bounds`) -/
theorem getWeeksOfMonth_range (a1 y m start r : Int) (h1 : 1 ≤ m) (h12 : m ≤ 12)
    (ha : a1 = Model.week y m 1) (hs : 0 ≤ start ∧ start ≤ 6)
    (h : Gen.Fn.SolarUtil_GetWeeksOfMonth a1 y m start = .ok r) : 3 ≤ r ∧ r ≤ 6 := by
  rw [getWeeksOfMonth_closed a1 y m start h1 h12 ha hs] at h
  injection h with h
  subst h
  have hb := Model.daysOfMonth_bounds y m h1 h12
  omega

/-- the 3-row case is attained -/
theorem getWeeksOfMonth_oct1582_monday :
    Gen.Fn.SolarUtil_GetWeeksOfMonth (Model.week 1582 10 1) 1582 10 1 = .ok 3 := by
  rw [getWeeksOfMonth_closed _ 1582 10 1 (by decide) (by decide) rfl (by decide)]
  congr 1

end FnE2E
