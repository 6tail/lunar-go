/-
Proofs.FnCivil2 — the machine-generated `Solar.NextYear/NextMonth/NextDay/NextHour` agree with the
hand-written model (`Model.Civil`).  Helper lemmas are prefixed `c2_`.
-/
import Proofs.FnCivil1
import Proofs.FnSolarMonth
import Proofs.CivilStep

namespace FnEq

theorem solarNextYear_eq (s : Gen.Fn.Solar) (years : Int) :
    Gen.Fn.calendar_Solar_NextYear s years = (match (toM s).nextYear years with
      | some r => .ok (ofM r) | none => .error .panic) := by
  simp only [Gen.Fn.calendar_Solar_NextYear, Model.Solar.nextYear, getYear_eq, getMonth_eq,
    getDay_eq, getHour_eq, getMinute_eq, getSecond_eq, c1_ok_bind, isLeapYear_eq, toM_year,
    toM_month, toM_day, toM_hour, toM_minute, toM_second, c1_oct1582]
  by_cases c1 : s.year + years = 1582 ∧ s.month = 10
  · by_cases c2 : s.day > 4 ∧ s.day < 15 <;> simp [c1, c2, newSolar_eq] <;> rfl
  · by_cases c2 : s.month = 2
    · by_cases c3 : s.day > 28
      · by_cases hl : Model.isLeapYear (s.year + years) = true <;>
          simp [c2, c3, hl, newSolar_eq] <;> rfl
      · simp [c2, c3, newSolar_eq]; rfl
    · have c2' : ¬ 2 = s.month := fun e => c2 e.symm
      simp [c1, c2, c2', newSolar_eq]; rfl

theorem c2_newSolar_none_of_month (y m d h mi s : Int) (hm : m < 1 ∨ 12 < m) :
    Model.newSolar y m d h mi s = none :=
  c1_newSolar_none fun hv => by have := ((c1_valid_iff ..).1 hv).1; omega

theorem solarNextMonth_eq (s : Gen.Fn.Solar) (months : Int) :
    Gen.Fn.calendar_Solar_NextMonth s months = (match (toM s).nextMonth months with
      | some r => .ok (ofM r) | none => .error .panic) := by
  simp only [Gen.Fn.calendar_Solar_NextMonth, Model.Solar.nextMonth, getYear_eq, getMonth_eq,
    getDay_eq, getHour_eq, getMinute_eq, getSecond_eq, c1_ok_bind, toM_year,
    toM_month, toM_day, toM_hour, toM_minute, toM_second, newSolarMonthFromYm_eq,
    solarMonthNext_eq, solarMonthGetYear_eq, solarMonthGetMonth_eq, c1_oct1582]
  obtain ⟨y, hy⟩ : ∃ y, (Model.nextYm s.year s.month months).1 = y := ⟨_, rfl⟩
  obtain ⟨m, hm⟩ : ∃ m, (Model.nextYm s.year s.month months).2 = m := ⟨_, rfl⟩
  simp only [hy, hm]
  by_cases c1 : y = 1582 ∧ m = 10
  · by_cases c2 : s.day > 4 ∧ s.day < 15 <;> simp [c1, c2, newSolar_eq] <;> rfl
  · by_cases h12 : 1 ≤ m ∧ m ≤ 12
    · by_cases c3 : s.day > Model.daysOfMonth y m <;>
        simp [c1, c3, getDaysOfMonth_eq _ _ h12.1 h12.2, newSolar_eq] <;> rfl
    · have hm' : m < 1 ∨ 12 < m := by omega
      simp [c1, getDaysOfMonth_panic _ _ hm', c2_newSolar_none_of_month _ _ _ _ _ _ hm']

/-- body of the translated loop `for d > daysInMonth { … }`; state `(y, m, d, daysInMonth, done)` -/
abbrev c2_fwdStep : Nat → Int × Int × Int × Int × Bool →
    Except Gen.Fn.Err (ForInStep (Int × Int × Int × Int × Bool)) := fun _ st =>
  if (!decide (st.snd.snd.fst > st.snd.snd.snd.fst)) = true then
    pure (ForInStep.done (st.fst, st.snd.fst, st.snd.snd.fst, st.snd.snd.snd.fst, true))
  else
    if decide (st.snd.fst + 1 > 12) = true then do
      let t7 ← Gen.Fn.SolarUtil_GetDaysOfMonth (st.fst + 1) 1
      pure (ForInStep.yield (st.fst + 1, 1, st.snd.snd.fst - st.snd.snd.snd.fst, t7, st.snd.snd.snd.snd))
    else do
      let t7 ← Gen.Fn.SolarUtil_GetDaysOfMonth st.fst (st.snd.fst + 1)
      pure (ForInStep.yield (st.fst, st.snd.fst + 1, st.snd.snd.fst - st.snd.snd.snd.fst, t7, st.snd.snd.snd.snd))

/-- body of the translated loop `for d+days <= 0 { … }`; state `(y, m, d, done)` -/
abbrev c2_bwdStep (n : Int) : Nat → Int × Int × Int × Bool →
    Except Gen.Fn.Err (ForInStep (Int × Int × Int × Bool)) := fun _ st =>
  if (!decide (st.snd.snd.fst + n ≤ 0)) = true then
    pure (ForInStep.done (st.fst, st.snd.fst, st.snd.snd.fst, true))
  else
    if decide (st.snd.fst - 1 < 1) = true then do
      let t10 ← Gen.Fn.SolarUtil_GetDaysOfMonth (st.fst - 1) 12
      pure (ForInStep.yield (st.fst - 1, 12, st.snd.snd.fst + t10, st.snd.snd.snd))
    else do
      let t10 ← Gen.Fn.SolarUtil_GetDaysOfMonth st.fst (st.snd.fst - 1)
      pure (ForInStep.yield (st.fst, st.snd.fst - 1, st.snd.snd.fst + t10, st.snd.snd.snd))

/-- A month has at least one day, so `d ≤ daysOfMonth y m + k` lets `Model.fwdLoop k` finish. -/
theorem c2_fwd_list (fuel : Nat) : ∀ (i k : Nat) (y m d : Int), 1 ≤ m → m ≤ 12 → k < fuel →
    d ≤ Model.daysOfMonth y m + k → ∃ y1 m1 d1, Model.fwdLoop k y m d = (y1, m1, d1) ∧
      forIn (List.range' i fuel 1) (y, m, d, Model.daysOfMonth y m, false) c2_fwdStep =
        .ok (y1, m1, d1, Model.daysOfMonth y1 m1, true) := by
  induction fuel with
  | zero => intro i k y m d _ _ hk; omega
  | succ fuel ih =>
    intro i k y m d h1 h12 hk hd
    rw [List.range'_succ, List.forIn_cons]
    by_cases c : d > Model.daysOfMonth y m
    · obtain ⟨k, rfl⟩ : ∃ k', k = k' + 1 := ⟨k - 1, by omega⟩
      by_cases c2 : m + 1 > 12
      · have := (Model.daysOfMonth_bounds (y + 1) 1 (by omega) (by omega)).1
        simp only [Model.fwdLoop, c2_fwdStep, c, c2, decide_true, Bool.not_true, Bool.false_eq_true,
          if_false, if_true, getDaysOfMonth_eq (y + 1) 1 (by omega) (by omega), c1_ok_bind, c1_pure]
        exact ih _ k _ _ _ (by omega) (by omega) (by omega) (by omega)
      · have := (Model.daysOfMonth_bounds y (m + 1) (by omega) (by omega)).1
        simp only [Model.fwdLoop, c2_fwdStep, c, c2, decide_true, decide_false, Bool.not_true,
          Bool.false_eq_true, if_false, if_true,
          getDaysOfMonth_eq y (m + 1) (by omega) (by omega), c1_ok_bind, c1_pure]
        exact ih _ k _ _ _ (by omega) (by omega) (by omega) (by omega)
    · refine ⟨y, m, d, ?_, ?_⟩
      · cases k with
        | zero => rfl
        | succ k => simp only [Model.fwdLoop, if_neg c]
      · simp only [c2_fwdStep, c, decide_false, Bool.not_false, if_true, c1_pure, c1_ok_bind]

theorem c2_bwd_list (n : Int) (fuel : Nat) : ∀ (i k : Nat) (y m d : Int), m ≤ 13 → k < fuel →
    0 < d + n + k → ∃ y1 m1 d1, Model.bwdLoop k y m d n = (y1, m1, d1) ∧
      forIn (List.range' i fuel 1) (y, m, d, false) (c2_bwdStep n) = .ok (y1, m1, d1, true) := by
  induction fuel with
  | zero => intro i k y m d _ hk; omega
  | succ fuel ih =>
    intro i k y m d h13 hk hd
    rw [List.range'_succ, List.forIn_cons]
    by_cases c : d + n ≤ 0
    · obtain ⟨k, rfl⟩ : ∃ k', k = k' + 1 := ⟨k - 1, by omega⟩
      by_cases c2 : m - 1 < 1
      · have := (Model.daysOfMonth_bounds (y - 1) 12 (by omega) (by omega)).1
        simp only [Model.bwdLoop, c2_bwdStep, c, c2, decide_true, Bool.not_true, Bool.false_eq_true,
          if_false, if_true, getDaysOfMonth_eq (y - 1) 12 (by omega) (by omega), c1_ok_bind, c1_pure]
        exact ih _ k _ _ _ (by omega) (by omega) (by omega)
      · have := (Model.daysOfMonth_bounds y (m - 1) (by omega) (by omega)).1
        simp only [Model.bwdLoop, c2_bwdStep, c, c2, decide_true, decide_false, Bool.not_true,
          Bool.false_eq_true, if_false, if_true,
          getDaysOfMonth_eq y (m - 1) (by omega) (by omega), c1_ok_bind, c1_pure]
        exact ih _ k _ _ _ (by omega) (by omega) (by omega)
    · refine ⟨y, m, d, ?_, ?_⟩
      · cases k with
        | zero => rfl
        | succ k => simp only [Model.bwdLoop, if_neg c]
      · simp only [c2_bwdStep, c, decide_false, Bool.not_false, if_true, c1_pure, c1_ok_bind]

theorem c2_valid_facts (y m d h mi sec : Int)
    (hv : (Model.Solar.mk y m d h mi sec).valid = true) :
    1 ≤ m ∧ m ≤ 12 ∧ 1 ≤ d ∧
      (if y = 1582 ∧ m = 10 then (d ≤ 4 ∨ 15 ≤ d) ∧ d ≤ 31 else d ≤ Model.daysOfMonth y m) := by
  obtain ⟨⟨a, b⟩, ⟨c, e⟩, f, _⟩ := (c1_valid_iff ..).1 hv
  refine ⟨a, b, c, ?_⟩
  split at f <;> rename_i c1
  · rw [if_pos c1]; exact ⟨f, e⟩
  · rw [if_neg c1]; exact f

/-- The 1582-10 renumbering `if 1582 == y && 10 == m { if d > 4 { d = d' } }` before the rest `jp`. -/
theorem c2_adjust {α : Type} (y m d d' : Int) (jp : Int → α) :
    (if (decide (1582 = y) && decide (10 = m)) = true then
        if decide (d > 4) = true then jp d' else jp d else jp d) =
      jp (if y = 1582 ∧ m = 10 ∧ d > 4 then d' else d) := by
  simp only [c1_oct1582, decide_eq_true_eq]
  by_cases c : y = 1582 ∧ m = 10
  · by_cases c2 : d > 4
    · rw [if_pos c, if_pos c2, if_pos ⟨c.1, c.2, c2⟩]
    · rw [if_pos c, if_neg c2, if_neg fun e => c2 e.2.2]
  · rw [if_neg c, if_neg fun e => c ⟨e.1, e.2.1⟩]

theorem c2_final_eq (y m d h mi sec : Int) :
    (if (decide (1582 = y) && decide (10 = m)) = true then
        if decide (d > 4) = true then Gen.Fn.calendar_NewSolar y m (d + 10) h mi sec
        else Gen.Fn.calendar_NewSolar y m d h mi sec
      else Gen.Fn.calendar_NewSolar y m d h mi sec) =
    (match Model.newSolar y m (Model.uncomp y m d) h mi sec with
      | some r => .ok (ofM r) | none => .error .panic) := by
  rw [c2_adjust y m d (d + 10) (Gen.Fn.calendar_NewSolar y m · h mi sec), newSolar_eq]; rfl

/-- `Solar.NextDay` under the weakest guard the proof needs: month in range and the
(1582-10-renumbered) day within `1 … daysOfMonth`.  Every valid date satisfies it
(`solarNextDay_eq`).  `fuel` bounds the translated `for cond {}` loops; the model's own fuel is
`n.natAbs + 1` loop tests, the translated loop needs one more iteration to observe the exit. -/
theorem solarNextDay_eq' (fuel : Nat) (s : Gen.Fn.Solar) (n : Int)
    (h1 : 1 ≤ s.month) (h12 : s.month ≤ 12)
    (hlo : 1 ≤ (if s.year = 1582 ∧ s.month = 10 ∧ s.day > 4 then s.day - 10 else s.day))
    (hhi : (if s.year = 1582 ∧ s.month = 10 ∧ s.day > 4 then s.day - 10 else s.day) ≤
      Model.daysOfMonth s.year s.month)
    (hf : n.natAbs + 2 ≤ fuel) :
    Gen.Fn.calendar_Solar_NextDay fuel s n = (match (toM s).nextDay n with
      | some r => .ok (ofM r) | none => .error .panic) := by
  obtain ⟨y, m, d, h, mi, sec⟩ := s
  obtain ⟨d0, hd0⟩ : ∃ d0, (if y = 1582 ∧ m = 10 ∧ d > 4 then d - 10 else d) = d0 := ⟨_, rfl⟩
  simp only [hd0] at h1 h12 hlo hhi
  rw [Model.Solar.nextDay_eq, Model.nextDayYmd_eq]
  simp only [toM_mk]
  simp only [Model.stepCore, Model.comp, hd0]
  -- The renumbering in front is followed by a join point called from its three branches: name the
  -- join points instead of inlining them, so that the three calls collapse into one (`c2_adjust`).
  unfold Gen.Fn.calendar_Solar_NextDay
  simp -zeta only [getYear_eq, getMonth_eq, getDay_eq, getHour_eq, getMinute_eq, getSecond_eq,
    c1_ok_bind]
  extract_lets y' m' d'
  simp only [c2_adjust]
  rcases Int.lt_trichotomy n 0 with hn | rfl | hn
  · obtain ⟨y1, m1, d1, hm, hl⟩ :=
      c2_bwd_list n fuel 0 (n.natAbs + 1) y m d0 (by omega) (by omega) (by omega)
    have hn' : ¬ n > 0 := by omega
    simp +zetaDelta only [hd0, hn, hn', decide_true, decide_false, if_true, c1_ok_bind,
      c1_forIn_range, hl, Bool.not_true, Bool.false_eq_true, if_false, c2_final_eq, hm]
  · have h0 : ¬ (0 : Int) > 0 := by omega
    simp +zetaDelta only [hd0, h0, decide_false, Bool.false_eq_true, if_false, c2_final_eq]
  · obtain ⟨y1, m1, d1, hm, hl⟩ :=
      c2_fwd_list fuel 0 (n.toNat + 1) y m (d0 + n) h1 h12 (by omega) (by omega)
    have hn' : n > 0 := hn
    simp +zetaDelta only [hd0, hn', decide_true, if_true, getDaysOfMonth_eq y m h1 h12, c1_ok_bind,
      c1_forIn_range, hl, Bool.not_true, Bool.false_eq_true, if_false, c2_final_eq, hm]

/-- `Solar.NextDay` for a valid receiver (anything `NewSolar` returns). -/
theorem solarNextDay_eq (fuel : Nat) (s : Gen.Fn.Solar) (n : Int)
    (hs : (toM s).valid = true) (hf : n.natAbs + 2 ≤ fuel) :
    Gen.Fn.calendar_Solar_NextDay fuel s n = (match (toM s).nextDay n with
      | some r => .ok (ofM r) | none => .error .panic) := by
  obtain ⟨⟨h1, h12⟩, ⟨hd1, hd31⟩, hd, _⟩ :=
    (c1_valid_iff s.year s.month s.day s.hour s.minute s.second).1 hs
  have := Model.daysOfMonth_bounds s.year s.month h1 h12
  refine solarNextDay_eq' fuel s n h1 h12 ?_ ?_ hf <;> split at hd <;> split <;> omega

theorem c2_newSolar_valid (y m d h mi sec : Int) (r : Model.Solar)
    (e : Model.newSolar y m d h mi sec = some r) : r.valid = true := by
  unfold Model.newSolar at e
  split at e <;> cases e
  assumption

theorem c2_nextDay_valid (s r : Model.Solar) (n : Int) (h : s.nextDay n = some r) :
    r.valid = true :=
  c2_newSolar_valid _ _ _ _ _ _ _ (Model.Solar.nextDay_eq s n ▸ h)

theorem c2_nextHour_tail (fuel : Nat) (s : Gen.Fn.Solar) (days hour : Int)
    (hs : (toM s).valid = true) (hf : days.natAbs + 2 ≤ fuel) :
    (Gen.Fn.calendar_Solar_NextDay fuel s days >>= fun o =>
      Gen.Fn.calendar_NewSolar o.year o.month o.day hour o.minute o.second) =
    (match (match (toM s).nextDay days with
        | none => none
        | some o => Model.newSolar o.year o.month o.day hour o.minute o.second) with
      | some r => .ok (ofM r) | none => .error .panic) := by
  rw [solarNextDay_eq fuel s days hs hf]
  cases (toM s).nextDay days with
  | none => rfl
  | some o => exact newSolar_eq ..

/-- Go's `/`, `%` are applied to the absolute value, where they agree with the model's. -/
theorem solarNextHour_eq (fuel : Nat) (s : Gen.Fn.Solar) (hours : Int)
    (hs : (toM s).valid = true) (hf : (s.hour + hours).natAbs / 24 + 3 ≤ fuel) :
    Gen.Fn.calendar_Solar_NextHour fuel s hours = (match (toM s).nextHour hours with
      | some r => .ok (ofM r) | none => .error .panic) := by
  unfold Model.Solar.nextHour
  simp only [Gen.Fn.calendar_Solar_NextHour, getYear_eq, getMonth_eq, getDay_eq, getHour_eq,
    getMinute_eq, getSecond_eq, c1_ok_bind, toM_hour]
  by_cases hneg : s.hour + hours < 0
  · have h0 : (0 : Int) ≤ -(s.hour + hours) := by omega
    simp only [hneg, decide_true, if_true, Int.tdiv_eq_ediv_of_nonneg h0,
      Int.tmod_eq_emod_of_nonneg h0]
    by_cases hh : -(s.hour + hours) % 24 * -1 < 0
    · simp only [hh, decide_true, if_true]
      exact c2_nextHour_tail fuel s _ _ hs (by omega)
    · simp only [hh, decide_false, Bool.false_eq_true, if_false]
      exact c2_nextHour_tail fuel s _ _ hs (by omega)
  · have h0 : (0 : Int) ≤ s.hour + hours := by omega
    have hh : ¬ (s.hour + hours) % 24 * 1 < 0 := by omega
    simp only [hneg, hh, decide_false, Bool.false_eq_true, if_false,
      Int.tdiv_eq_ediv_of_nonneg h0, Int.tmod_eq_emod_of_nonneg h0]
    exact c2_nextHour_tail fuel s _ _ hs (by omega)

end FnEq
