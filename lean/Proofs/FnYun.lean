/-
Proofs.FnYun — `Yun.computeStart`, `Yun.GetStartSolar` and the fortune-period constructors:
generated code = model.  `computeStart` first chooses the `start` / `end` moments by direction and
then computes the offset from them; the generated body is cut at that point (`mi_csCore`) so that the
computation is compared with the model's (`mi_yunCore`) once, for arbitrary moments.
-/
import Proofs.FnMiscBase

namespace FnEq
open Gen.Fn

/-- `start` / `end` moments of `computeStart`: going forward from the birth moment to the next Jie,
or backward from the previous Jie to the birth moment. -/
def mi_yunStartSolar (current prev : Model.Solar) (forward : Bool) : Model.Solar :=
  if !forward then prev else current
def mi_yunEndSolar (current next : Model.Solar) (forward : Bool) : Model.Solar :=
  if forward then next else current

/-- The start-offset computation inside `Model.mkYun` from the `start` and `end` moments:
(startYear, startMonth, startDay, startHour). -/
def mi_yunCore (start end_ : Model.Solar) (sect : Int) : Option (Int × Int × Int × Int) :=
  if sect = 2 then
    match end_.subtractMinute start with
    | none => none
    | some minutes =>
      let year := Int.tdiv minutes 4320
      let m1 := minutes - year * 4320
      let month := Int.tdiv m1 360
      let m2 := m1 - month * 360
      let day := Int.tdiv m2 12
      let m3 := m2 - day * 12
      some (year, month, day, m3 * 2)
  else
    match end_.subtract start with
    | none => none
    | some dayDiff0 =>
      let hd0 := Model.yunZhiIndex end_ - Model.yunZhiIndex start
      let (hourDiff, dayDiff) := if hd0 < 0 then (hd0 + 12, dayDiff0 - 1) else (hd0, dayDiff0)
      let monthDiff := Int.tdiv (hourDiff * 10) 30
      let month := dayDiff * 4 + monthDiff
      let day := hourDiff * 10 - monthDiff * 30
      let year := Int.tdiv month 12
      some (year, month - year * 12, day, 0)

def mi_yunStart (current prev next : Model.Solar) (forward : Bool) (sect : Int) :
    Option (Int × Int × Int × Int) :=
  mi_yunCore (mi_yunStartSolar current prev forward) (mi_yunEndSolar current next forward) sect

/-- `forward` as `NewYun` computes it. -/
def mi_yunForward (l : Model.Lunar) (gender : Int) : Bool :=
  (decide (l.yearGanIndexExact % 2 = 0) && decide (gender = 1)) ||
    (!decide (l.yearGanIndexExact % 2 = 0) && !decide (gender = 1))

theorem mi_mkYun_eq (l : Model.Lunar) (gender sect : Int) (pn nn : String) (prev next : Model.Solar)
    (hp : l.prevJie false = some (pn, prev)) (hn : l.nextJie false = some (nn, next)) :
    Model.mkYun l gender sect =
      (match mi_yunStart l.solar prev next (mi_yunForward l gender) sect with
        | some (y, m, d, h) => some ⟨gender, y, m, d, h, mi_yunForward l gender, l⟩
        | none => none) := by
  unfold Model.mkYun mi_yunStart mi_yunCore mi_yunStartSolar mi_yunEndSolar mi_yunForward
  rw [hp, hn]
  dsimp only
  by_cases hs : sect = 2
  · rw [if_pos hs, if_pos hs]
    rcases Model.Solar.subtractMinute _ _ with _ | m <;> rfl
  · rw [if_neg hs, if_neg hs]
    rcases Model.Solar.subtract _ _ with _ | d <;> rfl

/-- The four fields `computeStart` writes. -/
def mi_yunWith (yun : Gen.Fn.Yun) (r : Int × Int × Int × Int) : Gen.Fn.Yun :=
  { yun with startYear := r.1, startMonth := r.2.1, startDay := r.2.2.1, startHour := r.2.2.2 }

open Gen.Fn in
/-- The generated `computeStart` after `start` and `end` have been chosen (verbatim copy of the tail
of the generated `do` block). -/
def mi_csCore (a3 a4 : Int) (yun : Yun) (start «end» : Solar) (sect : Int) : Except Err Yun := do
  let mut yun := yun
  let mut year : Int := 0
  let mut month : Int := 0
  let mut day : Int := 0
  let mut hour : Int := 0
  if decide (2 = sect) then
    let t4 ← calendar_Solar_SubtractMinute «end» start
    let mut minutes : Int := t4
    year := (Int.tdiv minutes 4320)
    minutes := (minutes - (year * 4320))
    month := (Int.tdiv minutes 360)
    minutes := (minutes - (month * 360))
    day := (Int.tdiv minutes 12)
    minutes := (minutes - (day * 12))
    hour := (minutes * 2)
  else
    let mut endTimeZhiIndex : Int := 11
    let t5 ← calendar_Solar_GetHour «end»
    if decide (t5 ≠ 23) then
      endTimeZhiIndex := a3
    let mut startTimeZhiIndex : Int := 11
    let t6 ← calendar_Solar_GetHour start
    if decide (t6 ≠ 23) then
      startTimeZhiIndex := a4
    let mut hourDiff : Int := (endTimeZhiIndex - startTimeZhiIndex)
    let t7 ← calendar_Solar_Subtract «end» start
    let mut dayDiff : Int := t7
    if decide (hourDiff < 0) then
      hourDiff := (hourDiff + 12)
      dayDiff := (dayDiff - 1)
    let mut monthDiff : Int := (Int.tdiv (hourDiff * 10) 30)
    month := ((dayDiff * 4) + monthDiff)
    day := ((hourDiff * 10) - (monthDiff * 30))
    year := (Int.tdiv month 12)
    month := (month - (year * 12))
  yun := { yun with startYear := year }
  yun := { yun with startMonth := month }
  yun := { yun with startDay := day }
  yun := { yun with startHour := hour }
  return yun

theorem mi_cs_core (a1 a2 : Gen.Fn.JieQi) (a3 a4 : Int) (yun : Gen.Fn.Yun) (sect : Int) :
    Gen.Fn.calendar_Yun_computeStart a1 a2 a3 a4 yun sect =
      mi_csCore a3 a4 yun (if !yun.forward then a1.solar else yun.lunar.solar)
        (if yun.forward then a2.solar else yun.lunar.solar) sect := by
  obtain ⟨g, sy, sm, sd, sh, fw, l⟩ := yun
  cases fw <;> rfl

theorem mi_csCore_eq (a3 a4 : Int) (yun : Gen.Fn.Yun) (s e : Gen.Fn.Solar) (sect : Int)
    (hs : s.month ≤ 13) (he : e.month ≤ 13)
    (ha3 : sect ≠ 2 → e.hour ≠ 23 → a3 = Model.timeZhiIndexOf e.hour e.minute)
    (ha4 : sect ≠ 2 → s.hour ≠ 23 → a4 = Model.timeZhiIndexOf s.hour s.minute) :
    mi_csCore a3 a4 yun s e sect =
      (match mi_yunCore (toM s) (toM e) sect with
        | some r => .ok (mi_yunWith yun r)
        | none => .error .panic) := by
  by_cases h2 : sect = 2
  · subst h2
    simp only [mi_csCore, mi_yunCore, solarSubtractMinute_eq e s he hs, decide_true, if_true]
    cases (toM e).subtractMinute (toM s) <;> rfl
  have h2' : ¬ (2 = sect) := fun h => h2 h.symm
  -- the time-branch index the code selects is the model's `yunZhiIndex`
  have hze : (if e.hour ≠ 23 then a3 else 11) = Model.yunZhiIndex (toM e) := by
    unfold Model.yunZhiIndex
    by_cases h : e.hour = 23
    · simp [h]
    · simp [h, ha3 h2 h]
  have hzs : (if s.hour ≠ 23 then a4 else 11) = Model.yunZhiIndex (toM s) := by
    unfold Model.yunZhiIndex
    by_cases h : s.hour = 23
    · simp [h]
    · simp [h, ha4 h2 h]
  simp only [mi_yunCore, h2, if_false, ← hze, ← hzs]
  simp only [mi_csCore, h2', decide_false, getHour_eq, solarSubtract_eq e s he hs, c1_ok_bind,
    c1_pure, Bool.false_eq_true, if_false]
  cases (toM e).subtract (toM s) with
  | none =>
    by_cases c1 : e.hour = 23 <;> by_cases c2 : s.hour = 23 <;> simp [c1, c2]
  | some dd =>
    by_cases c1 : e.hour = 23 <;> by_cases c2 : s.hour = 23 <;> simp [c1, c2] <;> first | rfl | (split <;> rfl)

/-- `Yun.computeStart`, both schools (`sect = 2` and `sect ≠ 2`), both directions.
Atoms: `a1`, `a2` = previous / next Jie (only their `solar` field is read); `a3`, `a4` =
`LunarUtil.GetTimeZhiIndex("HH:MM")` of the end / start moment (= `Model.timeZhiIndexOf hour minute`;
only read for `sect ≠ 2` and when the hour is not 23).
Guards: the months of the two moments are `≤ 13` (they come from validating constructors),
otherwise `GetDaysInYear` panics on the table index where the model is totalised. -/
theorem yunComputeStart_eq (a1 a2 : Gen.Fn.JieQi) (a3 a4 : Int) (yun : Gen.Fn.Yun) (sect : Int)
    (hs : (mi_yunStartSolar (toM yun.lunar.solar) (toM a1.solar) yun.forward).month ≤ 13)
    (he : (mi_yunEndSolar (toM yun.lunar.solar) (toM a2.solar) yun.forward).month ≤ 13)
    (ha3 : sect ≠ 2 → (mi_yunEndSolar (toM yun.lunar.solar) (toM a2.solar) yun.forward).hour ≠ 23 →
      a3 = Model.timeZhiIndexOf (mi_yunEndSolar (toM yun.lunar.solar) (toM a2.solar) yun.forward).hour
        (mi_yunEndSolar (toM yun.lunar.solar) (toM a2.solar) yun.forward).minute)
    (ha4 : sect ≠ 2 → (mi_yunStartSolar (toM yun.lunar.solar) (toM a1.solar) yun.forward).hour ≠ 23 →
      a4 = Model.timeZhiIndexOf (mi_yunStartSolar (toM yun.lunar.solar) (toM a1.solar) yun.forward).hour
        (mi_yunStartSolar (toM yun.lunar.solar) (toM a1.solar) yun.forward).minute) :
    Gen.Fn.calendar_Yun_computeStart a1 a2 a3 a4 yun sect =
    (match mi_yunStart (toM yun.lunar.solar) (toM a1.solar) (toM a2.solar) yun.forward sect with
      | some r => .ok (mi_yunWith yun r)
      | none => .error .panic) := by
  unfold mi_yunStartSolar at hs ha4
  unfold mi_yunEndSolar at he ha3
  rw [← apply_ite toM] at hs he ha3 ha4
  rw [mi_cs_core, mi_yunStart, mi_yunStartSolar, mi_yunEndSolar, ← apply_ite toM, ← apply_ite toM]
  exact mi_csCore_eq a3 a4 yun _ _ sect hs he ha3 ha4

/-- `Yun.computeStart` against `Model.mkYun`: when the generated receiver `yun` carries the model's
birth moment and `forward` flag and the atoms are the model's previous / next Jie, the four written
fields `startYear/startMonth/startDay/startHour` are the model's (and a panic corresponds to `none`).
The other fields of `yun` (`gender`, `forward`, `lunar`) are untouched, as in the model, where
they are `gender`, `mi_yunForward l gender`, `l`. -/
theorem yunComputeStart_eq_mkYun (l : Model.Lunar) (gender sect : Int) (pn nn : String)
    (prev next : Model.Solar)
    (hp : l.prevJie false = some (pn, prev)) (hn : l.nextJie false = some (nn, next))
    (a1 a2 : Gen.Fn.JieQi) (a3 a4 : Int) (yun : Gen.Fn.Yun)
    (hcur : toM yun.lunar.solar = l.solar) (hfw : yun.forward = mi_yunForward l gender)
    (h1 : toM a1.solar = prev) (h2 : toM a2.solar = next)
    (hs : (mi_yunStartSolar l.solar prev (mi_yunForward l gender)).month ≤ 13)
    (he : (mi_yunEndSolar l.solar next (mi_yunForward l gender)).month ≤ 13)
    (ha3 : sect ≠ 2 → a3 = Model.timeZhiIndexOf (mi_yunEndSolar l.solar next (mi_yunForward l gender)).hour
        (mi_yunEndSolar l.solar next (mi_yunForward l gender)).minute)
    (ha4 : sect ≠ 2 → a4 = Model.timeZhiIndexOf (mi_yunStartSolar l.solar prev (mi_yunForward l gender)).hour
        (mi_yunStartSolar l.solar prev (mi_yunForward l gender)).minute) :
    Gen.Fn.calendar_Yun_computeStart a1 a2 a3 a4 yun sect =
    (match Model.mkYun l gender sect with
      | some r => .ok (mi_yunWith yun (r.startYear, r.startMonth, r.startDay, r.startHour))
      | none => .error .panic) := by
  rw [mi_mkYun_eq l gender sect pn nn prev next hp hn]
  rw [yunComputeStart_eq a1 a2 a3 a4 yun sect (by rw [hcur, hfw, h1]; exact hs)
    (by rw [hcur, hfw, h2]; exact he) (by rw [hcur, hfw, h2]; exact fun h _ => ha3 h)
    (by rw [hcur, hfw, h1]; exact fun h _ => ha4 h)]
  rw [hcur, hfw, h1, h2]
  cases mi_yunStart l.solar prev next (mi_yunForward l gender) sect with
  | none => rfl
  | some r => obtain ⟨y, m, d, h⟩ := r; rfl

/-- `Model.mkYun` returns `none` as soon as EITHER neighbouring Jie is missing.  (The Go code
dereferences only the one it uses: `prev` when going backward, `next` when going forward; a missing
Jie is a nil atom of the generated function, which the translation does not model.) -/
theorem mi_mkYun_none (l : Model.Lunar) (gender sect : Int)
    (h : l.prevJie false = none ∨ l.nextJie false = none) : Model.mkYun l gender sect = none := by
  unfold Model.mkYun
  rcases h with h | h <;> rw [h]
  cases l.prevJie false <;> rfl

/-- the model `Yun` carried by a generated `Yun` (plus the unmodelled term table of its lunar) -/
def mi_yunToM (y : Gen.Fn.Yun) (terms : List Model.Solar) : Model.Yun :=
  ⟨y.gender, y.startYear, y.startMonth, y.startDay, y.startHour, y.forward, mi_lunarToM y.lunar terms⟩

def mi_daYunToM (d : Gen.Fn.DaYun) : Model.DaYun := ⟨d.startYear, d.endYear, d.startAge, d.endAge, d.index⟩

def mi_daYunOfM (d : Model.DaYun) (yun : Gen.Fn.Yun) : Gen.Fn.DaYun :=
  ⟨d.startYear, d.endYear, d.startAge, d.endAge, d.index, yun, yun.lunar⟩

@[simp] theorem mi_daYunToM_ofM (d : Model.DaYun) (yun : Gen.Fn.Yun) :
    mi_daYunToM (mi_daYunOfM d yun) = d := rfl

/-- The call `yun.GetStartSolar()` agrees with `Model.Yun.startSolar` (proved below from the
`NextYear/NextMonth/NextDay/NextHour` facts: `mi_yunGetStartSolar_of_calls`; `Proofs.FnYunStart`
proves it outright as `yunGetStartSolar_eq` with `my := mi_yunToM yun terms` under two fuel bounds). -/
def mi_StartSolarOk (fuel : Nat) (yun : Gen.Fn.Yun) (terms : List Model.Solar) : Prop :=
  Gen.Fn.calendar_Yun_GetStartSolar fuel yun =
    (match (mi_yunToM yun terms).startSolar with | some r => .ok (ofM r) | none => .error .panic)

theorem newDaYun_eq (fuel : Nat) (yun : Gen.Fn.Yun) (index : Int) (terms : List Model.Solar)
    (hss : mi_StartSolarOk fuel yun terms) :
    Gen.Fn.calendar_NewDaYun fuel yun index =
      (match Model.mkDaYun (mi_yunToM yun terms) index with
        | some r => .ok (mi_daYunOfM r yun)
        | none => .error .panic) := by
  unfold mi_StartSolarOk at hss
  simp only [Gen.Fn.calendar_NewDaYun, Gen.Fn.calendar_Yun_GetLunar, mi_lunarGetSolar_eq, getYear_eq,
    c1_pure, c1_ok_bind, hss, Model.mkDaYun]
  cases (mi_yunToM yun terms).startSolar with
  | none => rfl
  | some ss =>
    simp only [c1_ok_bind, ofM_year]
    by_cases h : index < 1
    · simp only [h, decide_true, if_true]; rfl
    · simp only [h, decide_false, Bool.false_eq_true, if_false]; rfl

theorem newLiuNian_eq (d : Gen.Fn.DaYun) (index : Int) :
    Gen.Fn.calendar_NewLiuNian d index =
      .ok { index := index, daYun := d, year := d.startYear + index, age := d.startAge + index,
            lunar := d.lunar } := rfl

theorem newXiaoYun_eq (d : Gen.Fn.DaYun) (index : Int) (forward : Bool) :
    Gen.Fn.calendar_NewXiaoYun d index forward =
      .ok { index := index, daYun := d, year := d.startYear + index, age := d.startAge + index,
            forward := forward, lunar := d.lunar } := rfl

theorem newLiuYue_eq (n : Gen.Fn.LiuNian) (index : Int) :
    Gen.Fn.calendar_NewLiuYue n index = .ok { index := index, liuNian := n } := rfl

/-- `LiuNian` / `XiaoYun` entry `i` of a period built by `NewDaYun`: year and age in terms of the
model's `DaYun` (the model has no separate record for them; `Model.liuNianGanZhi` and
`Model.xiaoYunGanZhi` use `startAge` and `i` directly). -/
theorem newLiuNian_fields (d : Gen.Fn.DaYun) (i : Int) :
    ∃ r, Gen.Fn.calendar_NewLiuNian d i = .ok r ∧ r.index = i ∧
      r.year = (mi_daYunToM d).startYear + i ∧ r.age = (mi_daYunToM d).startAge + i ∧
      r.daYun = d ∧ r.lunar = d.lunar :=
  ⟨_, rfl, rfl, rfl, rfl, rfl, rfl⟩

theorem newXiaoYun_fields (d : Gen.Fn.DaYun) (i : Int) (fw : Bool) :
    ∃ r, Gen.Fn.calendar_NewXiaoYun d i fw = .ok r ∧ r.index = i ∧
      r.year = (mi_daYunToM d).startYear + i ∧ r.age = (mi_daYunToM d).startAge + i ∧
      r.forward = fw ∧ r.daYun = d ∧ r.lunar = d.lunar :=
  ⟨_, rfl, rfl, rfl, rfl, rfl, rfl, rfl⟩

/-! ### `Yun.GetStartSolar` from the four date-stepping calls

`Solar.NextYear/NextMonth/NextDay/NextHour` are proved equivalent to the model in `Proofs.FnCivil2`
(`solarNextYear_eq`, `solarNextMonth_eq` unconditionally; `solarNextDay_eq`, `solarNextHour_eq` for a
valid receiver and enough fuel).  Here the four calls are hypotheses of the same shape as
`mi_NextDayOk`. -/

def mi_NextYearOk (s : Gen.Fn.Solar) (n : Int) : Prop :=
  Gen.Fn.calendar_Solar_NextYear s n =
    (match (toM s).nextYear n with | some r => .ok (ofM r) | none => .error .panic)
def mi_NextMonthOk (s : Gen.Fn.Solar) (n : Int) : Prop :=
  Gen.Fn.calendar_Solar_NextMonth s n =
    (match (toM s).nextMonth n with | some r => .ok (ofM r) | none => .error .panic)
def mi_NextHourOk (fuel : Nat) (s : Gen.Fn.Solar) (n : Int) : Prop :=
  Gen.Fn.calendar_Solar_NextHour fuel s n =
    (match (toM s).nextHour n with | some r => .ok (ofM r) | none => .error .panic)

theorem mi_yunGetStartSolar_of_calls (fuel : Nat) (yun : Gen.Fn.Yun) (terms : List Model.Solar)
    (hy : mi_NextYearOk yun.lunar.solar yun.startYear)
    (hm : ∀ a, (toM yun.lunar.solar).nextYear yun.startYear = some a →
      mi_NextMonthOk (ofM a) yun.startMonth)
    (hd : ∀ a b, (toM yun.lunar.solar).nextYear yun.startYear = some a →
      a.nextMonth yun.startMonth = some b → mi_NextDayOk fuel (ofM b) yun.startDay)
    (hh : ∀ a b c, (toM yun.lunar.solar).nextYear yun.startYear = some a →
      a.nextMonth yun.startMonth = some b → b.nextDay yun.startDay = some c →
      mi_NextHourOk fuel (ofM c) yun.startHour) :
    mi_StartSolarOk fuel yun terms := by
  unfold mi_StartSolarOk mi_NextYearOk at *
  simp only [Gen.Fn.calendar_Yun_GetStartSolar, mi_lunarGetSolar_eq, c1_ok_bind, hy,
    Model.Yun.startSolar, mi_yunToM, mi_lunarToM]
  rcases ha : (toM yun.lunar.solar).nextYear yun.startYear with _ | a
  · rfl
  have hm := hm a ha
  unfold mi_NextMonthOk at hm
  simp only [c1_ok_bind, hm, toM_ofM, Option.bind_some]
  rcases hb : a.nextMonth yun.startMonth with _ | b
  · rfl
  have hd := hd a b ha hb
  unfold mi_NextDayOk at hd
  simp only [c1_ok_bind, hd, toM_ofM, Option.bind_some]
  rcases hc : b.nextDay yun.startDay with _ | c
  · rfl
  have hh := hh a b c ha hb hc
  unfold mi_NextHourOk at hh
  simp only [c1_ok_bind, hh, toM_ofM, Option.bind_some]

end FnEq
