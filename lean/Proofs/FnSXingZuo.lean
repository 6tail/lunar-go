/-
Proofs.FnSXingZuo — `Solar.GetXingZuo` of the string-mode generated code = the model's zodiac sign: the chain of
date-range tests of the Go code is the model's scan over the function's integer literals. Helpers carry the
prefix `s4_`.
-/
import Proofs.FnSBase
import Model.CivilFest

namespace FnSEq
open Gen.Fn (Err)

theorem s4_xzLits : Model.xzLits = [11, 100, 321, 419, 0, 420, 520, 1, 521, 621, 2, 622, 722, 3, 723, 822, 4, 823, 922, 5, 923, 1023, 6, 1024, 1122, 7, 1123, 1221, 8, 1222, 119, 9, 218, 10] := by
  decide +kernel

/-- `Solar.GetXingZuo`'s index as a function of `y = month * 100 + day` -/
def s4_xz (y : Int) : Int :=
  if 321 ≤ y ∧ y ≤ 419 then 0 else if 420 ≤ y ∧ y ≤ 520 then 1 else if 521 ≤ y ∧ y ≤ 621 then 2
  else if 622 ≤ y ∧ y ≤ 722 then 3 else if 723 ≤ y ∧ y ≤ 822 then 4 else if 823 ≤ y ∧ y ≤ 922 then 5
  else if 923 ≤ y ∧ y ≤ 1023 then 6 else if 1024 ≤ y ∧ y ≤ 1122 then 7 else if 1123 ≤ y ∧ y ≤ 1221 then 8
  else if 1222 ≤ y ∨ y ≤ 119 then 9 else if y ≤ 218 then 10 else 11

/-- the `match` by which `Model.xingZuoIndex` takes the result of its scan, under a name, so that `simp` can
push it through the arms of the scan -/
def s4_pick (o : Option Int) (r : Int) : Int := match o with | some i => i | none => r

theorem s4_pick_ite (c : Prop) [Decidable c] (a r : Int) (o : Option Int) :
    s4_pick (if c then some a else o) r = if c then a else s4_pick o r := by
  split <;> rfl

theorem s4_xz_model (m d : Int) : Model.xingZuoIndex m d = s4_xz (m * 100 + d) := by
  show s4_pick (Model.xzScan _ 9 2) _ = _
  simp only [Model.xzScan, s4_xzLits, Model.litAt, List.getD, List.getElem?_cons_succ, List.getElem?_cons_zero,
    Option.getD_some, ge_iff_le, s4_pick_ite]
  rfl

theorem s4_xz_range (y : Int) : 0 ≤ s4_xz y ∧ s4_xz y < 12 := by
  unfold s4_xz; omega

theorem s4_xz_gen (s : Gen.FnS.Solar) :
    Gen.FnS.calendar_Solar_GetXingZuo s = Gen.FnS.sidx Gen.Tables.SolarUtil.«XINGZUO» (s4_xz (s.month * 100 + s.day)) := by
  unfold Gen.FnS.calendar_Solar_GetXingZuo s4_xz
  simp only [ge_iff_le, Bool.and_eq_true, Bool.or_eq_true, decide_eq_true_eq]
  generalize s.month * 100 + s.day = y
  simp only [apply_ite (Gen.FnS.sidx Gen.Tables.SolarUtil.«XINGZUO»)]

/-- `Solar.GetXingZuo`: guard-free (the computed index always lies in 0..11) -/
theorem solarGetXingZuo_eq (s : Gen.FnS.Solar) :
    Gen.FnS.calendar_Solar_GetXingZuo s = .ok (Model.xingZuo s.month s.day) := by
  have hr := s4_xz_range (s.month * 100 + s.day)
  rw [s4_xz_gen, sidx_eq_getD Gen.Tables.SolarUtil.«XINGZUO» _ hr.1 (show _ < ((12 : Nat) : Int) from hr.2),
    Model.xingZuo, s4_xz_model]

theorem solarGetXingzuo_eq (s : Gen.FnS.Solar) :
    Gen.FnS.calendar_Solar_GetXingzuo s = .ok (Model.xingZuo s.month s.day) :=
  solarGetXingZuo_eq s

end FnSEq
