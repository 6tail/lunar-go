/-
Proofs.HolidaySpec — `HolidayUtil` over lists of 18-character records: the substring searches (a `strings.Index`
hit may be MIS-ALIGNED and is re-aligned to the record grid), the views as runs and filters, `Fix` with one
segment, the working-day loop. The stated theorems speak of `Rec`, `WF`, `flat`, `SortedByDay`; the lemmas under
them of `l : List (List Char)` with these unfolded (see "lists of records"), `SortedTable` bundling the table
hypotheses of the `Fix` lemmas. The prefix `hol_` marks what concerns the by-target lookup the library had before
its `fix:` commit, and the side condition of `fix_replace`.
-/
import Model.Holiday
import Proofs.CivilArith
import Proofs.FmtOrder
namespace Model

/-- a record is 18 characters -/
def Rec := List Char
def WF (recs : List Rec) : Prop := ∀ r ∈ recs, r.length = 18
def flat (recs : List Rec) : List Char := recs.flatten

theorem isPrefix_iff (k s : List Char) : isPrefix k s = true ↔ k <+: s := by
  induction k generalizing s with
  | nil => cases s <;> simp [isPrefix]
  | cons a as ih => cases s <;> simp [isPrefix, ih]

theorem isSuffix_iff (k s : List Char) : isSuffix k s = true ↔ k <:+ s := by
  rw [isSuffix, isPrefix_iff, List.reverse_prefix]

theorem isPrefix_nil_right (k : List Char) (hk : k ≠ []) : isPrefix k [] = false := by
  cases k with
  | nil => exact absurd rfl hk
  | cons a as => rfl

theorem isSuffix_nil_right (k : List Char) (hk : k ≠ []) : isSuffix k [] = false :=
  isPrefix_nil_right _ (by simpa using hk)

theorem isPrefix_append_right (k r x : List Char) (h : k.length ≤ r.length) :
    isPrefix k (r ++ x) = isPrefix k r := by
  rw [Bool.eq_iff_iff, isPrefix_iff, isPrefix_iff, List.prefix_iff_eq_take, List.prefix_iff_eq_take,
    List.take_append_of_le_length h]

theorem isSuffix_append_left (k r x : List Char) (h : k.length ≤ r.length) :
    isSuffix k (x ++ r) = isSuffix k r := by
  rw [isSuffix, List.reverse_append]
  exact isPrefix_append_right _ _ _ (by simpa using h)

theorem indexOf_spec (key : List Char) (hk : key ≠ []) (s : List Char) (i : Nat) :
    (indexOf key s i = none ∧ ∀ q, isPrefix key (s.drop q) = false) ∨
    (∃ p, indexOf key s i = some (i + p) ∧ isPrefix key (s.drop p) = true ∧
      ∀ q, q < p → isPrefix key (s.drop q) = false) := by
  induction s generalizing i with
  | nil => exact .inl ⟨by cases key <;> simp_all [indexOf], fun q => by simpa using isPrefix_nil_right key hk⟩
  | cons c cs ih =>
    rw [indexOf]
    by_cases hc : isPrefix key (c :: cs) = true
    · exact .inr ⟨0, by rw [if_pos hc]; rfl, hc, by omega⟩
    · rw [if_neg hc, Bool.not_eq_true] at *
      rcases ih (i + 1) with ⟨h1, h2⟩ | ⟨p, h1, h2, h3⟩
      · exact .inl ⟨h1, fun | 0 => hc | q + 1 => h2 q⟩
      · exact .inr ⟨p + 1, by rw [h1]; congr 1; omega, h2, fun | 0, _ => hc | q + 1, hq => h3 q (by omega)⟩

theorem lastIndexOf_spec (key : List Char) (hk : key ≠ []) (s : List Char) (i : Nat) (acc : Option Nat) :
    (lastIndexOf key s i acc = acc ∧ ∀ q, isPrefix key (s.drop q) = false) ∨
    (∃ p, lastIndexOf key s i acc = some (i + p) ∧ isPrefix key (s.drop p) = true ∧
      ∀ q, p < q → isPrefix key (s.drop q) = false) := by
  induction s generalizing i acc with
  | nil => exact .inl ⟨by cases key <;> simp_all [lastIndexOf], fun q => by simpa using isPrefix_nil_right key hk⟩
  | cons c cs ih =>
    rw [lastIndexOf]
    rcases ih (i + 1) (if isPrefix key (c :: cs) then some i else acc) with ⟨h1, h2⟩ | ⟨p, h1, h2, h3⟩
    · rw [h1]
      by_cases hc : isPrefix key (c :: cs) = true
      · exact .inr ⟨0, by rw [if_pos hc]; rfl, hc, fun | q + 1, _ => h2 q⟩
      · exact .inl ⟨if_neg hc, fun | 0 => Bool.eq_false_iff.2 hc | q + 1 => h2 q⟩
    · exact .inr ⟨p + 1, by rw [h1]; congr 1; omega, h2, fun | q + 1, hq => h3 q (by omega)⟩

/-! ## lists of records

`Rec` is not reducible, so `rw` does not identify `List Rec` with `List (List Char)`. The lemmas are
therefore stated for `l : List (List Char)` with `flat` and `WF` unfolded (`l.flatten`,
`∀ r ∈ l, r.length = 18`); the theorems about `List Rec` follow from them by `exact`. -/

theorem flatten_length_eq_mul {α} (l : List (List α)) {n : Nat} (h : ∀ r ∈ l, r.length = n) :
    l.flatten.length = n * l.length := by
  induction l with
  | nil => rfl
  | cons r rs ih =>
    rw [List.forall_mem_cons] at h
    rw [List.flatten_cons, List.length_append, ih h.2, h.1, List.length_cons, Nat.mul_succ, Nat.add_comm]

theorem length_lt_fuel (l : List (List Char)) (h : ∀ r ∈ l, r.length = 18) :
    l.length < l.flatten.length / recSize + 1 := by
  rw [flatten_length_eq_mul l h, recSize]; omega

theorem flatten_drop_mul {α} (l : List (List α)) {n : Nat} (h : ∀ r ∈ l, r.length = n) (m : Nat) :
    l.flatten.drop (n * m) = (l.drop m).flatten := by
  induction l generalizing m with
  | nil => simp
  | cons r rs ih =>
    cases m with
    | zero => rfl
    | succ m =>
      rw [List.forall_mem_cons] at h
      rw [List.drop_succ_cons, ← ih h.2, List.flatten_cons, Nat.mul_succ, Nat.add_comm, ← h.1,
        List.drop_length_add_append]

theorem flatten_take_mul {α} (l : List (List α)) {n : Nat} (h : ∀ r ∈ l, r.length = n) (m : Nat) :
    l.flatten.take (n * m) = (l.take m).flatten := by
  have e := List.take_append_drop (n * m) l.flatten
  rw [flatten_drop_mul l h] at e
  conv at e => rhs; rw [← List.take_append_drop m l, List.flatten_append]
  exact List.append_cancel_right e

theorem isPrefix_flatten_drop (key : List Char) (hk : key.length ≤ 18) (l : List (List Char))
    (hw : ∀ r ∈ l, r.length = 18) (i : Nat) (hi : i < l.length) :
    isPrefix key (l.flatten.drop (18 * i)) = isPrefix key l[i] := by
  rw [flatten_drop_mul l hw, List.drop_eq_getElem_cons hi, List.flatten_cons,
    isPrefix_append_right _ _ _ (by rw [hw _ (List.getElem_mem hi)]; exact hk)]

theorem dropWhile_eq_nil {α} {p : α → Bool} {l : List α} (h : ∀ x ∈ l, p x = true) : l.dropWhile p = [] := by
  simpa using List.dropWhile_append_of_pos (l₂ := []) h

theorem skipToPrefix_flatten (key : List Char) (hk : key.length ≤ 18) (l : List (List Char))
    (hw : ∀ r ∈ l, r.length = 18) (fuel : Nat) (hf : l.length < fuel) :
    skipToPrefix key fuel l.flatten = (l.dropWhile (fun r => !isPrefix key r)).flatten := by
  induction l generalizing fuel with
  | nil => cases fuel <;> simp [skipToPrefix, recSize]
  | cons r rs ih =>
    obtain ⟨f, rfl⟩ : ∃ f, fuel = f + 1 := ⟨fuel - 1, by omega⟩
    rw [List.forall_mem_cons] at hw
    rw [List.flatten_cons, skipToPrefix, recSize, if_neg (by simp [hw.1]),
      isPrefix_append_right _ _ _ (by omega), List.drop_left' hw.1, ih hw.2 f (by simpa using hf),
      List.dropWhile_cons]
    cases isPrefix key r <;> rfl

/-- `findForward` re-aligns a hit at offset `p` to the next record boundary -/
theorem align_fwd (d : List Char) (p : Nat) (hlen : d.length % 18 = 0) (hp : p ≤ d.length) :
    (if (d.drop p).length % recSize > 0 then (d.drop p).drop ((d.drop p).length % recSize) else d.drop p)
      = d.drop (18 * ((p + 17) / 18)) := by
  rw [List.length_drop, recSize]
  split
  · rw [List.drop_drop]; congr 1; omega
  · congr 1; omega

theorem findForward_flatten (recs : List (List Char)) (key : List Char) (hw : ∀ r ∈ recs, r.length = 18)
    (hk : 1 ≤ key.length ∧ key.length ≤ 18) :
    findForward recs.flatten key = (recs.dropWhile (fun r => !isPrefix key r)).flatten := by
  have hk0 : key ≠ [] := List.ne_nil_of_length_pos hk.1
  have hlen := flatten_length_eq_mul recs hw
  unfold findForward
  rcases indexOf_spec key hk0 recs.flatten 0 with ⟨h, h1⟩ | ⟨p, h, hpre, hmin⟩
  · rw [h, dropWhile_eq_nil]; rfl
    intro r hr
    obtain ⟨i, hi, rfl⟩ := List.getElem_of_mem hr
    rw [← isPrefix_flatten_drop key hk.2 recs hw i hi, h1]; rfl
  · have hp : p + key.length ≤ recs.flatten.length := by
      have := ((isPrefix_iff _ _).1 hpre).length_le
      rw [List.length_drop] at this; omega
    rw [h]
    simp only [Nat.zero_add]
    rw [align_fwd _ _ (by omega) (by omega), flatten_drop_mul recs hw,
      skipToPrefix_flatten key hk.2 _ (fun r hr => hw r (List.mem_of_mem_drop hr)) _
        (length_lt_fuel _ (fun r hr => hw r (List.mem_of_mem_drop hr)))]
    -- the records before the boundary start before `p`, so none of them has the key as a prefix
    congr 1
    conv => rhs; rw [← List.take_append_drop ((p + 17) / 18) recs]
    refine (List.dropWhile_append_of_pos fun r hr => ?_).symm
    obtain ⟨i, hi, rfl⟩ := List.mem_take_iff_getElem.1 hr
    have hi' : i < recs.length := by omega
    rw [← isPrefix_flatten_drop key hk.2 recs hw i hi', hmin _ (by omega)]; rfl

theorem findForward_spec (recs : List Rec) (key : List Char) (hw : WF recs) (hk : 1 ≤ key.length ∧ key.length ≤ 18) :
    findForward (flat recs) key = flat (recs.dropWhile (fun r => !isPrefix key r)) :=
  findForward_flatten recs key hw hk

theorem buildForward_append (st : HolidayState) (r x : List Char) (h : r.length = 18) :
    buildForward st (r ++ x) = buildForward st r := by
  have h1 : ¬ 18 + x.length < 18 := by omega
  have h2 : (r.drop 10).take 8 = r.drop 10 := List.take_of_length_le (by simp [h])
  simp [buildForward, recSize, h, h1, h2, List.getD_eq_getElem?_getD, List.getElem?_append_left,
    List.take_append_of_le_length, List.drop_append_of_le_length]

/-- the loop of `findHolidaysForward` on a list of records: the leading run of records with the key -/
theorem collectForward_flatten (st : HolidayState) (key : List Char) (hk : 1 ≤ key.length ∧ key.length ≤ 18)
    (l : List (List Char)) (hw : ∀ r ∈ l, r.length = 18) (hb : ∀ r ∈ l, (buildForward st r).isSome = true) :
    (let s := l.flatten; if s.isEmpty then some [] else collectForward st key (s.length / recSize + 2) s) =
      some ((l.takeWhile (fun r => isPrefix key r)).filterMap (buildForward st)) := by
  have hk0 : key ≠ [] := List.ne_nil_of_length_pos hk.1
  have h (fuel : Nat) (hf : l.length < fuel) : collectForward st key fuel l.flatten =
      some ((l.takeWhile (fun r => isPrefix key r)).filterMap (buildForward st)) := by
    induction l generalizing fuel with
    | nil => cases fuel <;> simp [collectForward, isPrefix_nil_right key hk0]
    | cons r rs ih =>
      obtain ⟨f, rfl⟩ : ∃ f, fuel = f + 1 := ⟨fuel - 1, by omega⟩
      rw [List.forall_mem_cons] at hw hb
      obtain ⟨h, hh⟩ := Option.isSome_iff_exists.1 hb.1
      rw [List.flatten_cons, collectForward, recSize, isPrefix_append_right _ _ _ (by omega),
        buildForward_append _ _ _ hw.1, hh, List.drop_left' hw.1, ih hw.2 hb.2 f (by simpa using hf),
        List.takeWhile_cons]
      cases isPrefix key r <;> simp [hh]
  -- on the empty string the loop returns `some []` too
  have hwrap (s : List Char) : (if s.isEmpty then some [] else collectForward st key (s.length / recSize + 2) s)
      = collectForward st key (s.length / recSize + 2) s := by
    cases s <;> simp [collectForward, isPrefix_nil_right key hk0]
  exact (hwrap _).trans (h _ (Nat.lt_succ_of_lt (length_lt_fuel l hw)))

theorem forwardRun_spec (st : HolidayState) (recs : List Rec) (key : List Char) (hd : st.data = flat recs) (hw : WF recs)
    (hk : 1 ≤ key.length ∧ key.length ≤ 18) (hb : ∀ r ∈ recs, (buildForward st r).isSome = true) :
    findHolidaysForward st key = some (((recs.dropWhile (fun r => !isPrefix key r)).takeWhile (fun r => isPrefix key r)).filterMap (buildForward st)) := by
  rw [findHolidaysForward, hd, findForward_spec recs key hw hk]
  exact collectForward_flatten st key hk _ (fun r hr => hw r (List.dropWhile_subset _ hr))
    (fun r hr => hb r (List.dropWhile_subset _ hr))

/-- the elements satisfying `P` form one contiguous segment of `l` -/
def Convex {α} (P : α → Bool) (l : List α) : Prop :=
  ∀ a b c l1 l2 l3 l4, l = l1 ++ [a] ++ l2 ++ [b] ++ l3 ++ [c] ++ l4 → P a = true → P c = true → P b = true

theorem Convex_tail {α} {P : α → Bool} {x : α} {l : List α} (h : Convex P (x :: l)) : Convex P l :=
  fun a b c l1 l2 l3 l4 hl => h a b c (x :: l1) l2 l3 l4 (by rw [hl]; rfl)

theorem takeWhile_eq_filter_convex {α} (P : α → Bool) (a : α) (t : List α) (h : Convex P (a :: t))
    (ha : P a = true) : t.takeWhile P = t.filter P := by
  induction t generalizing a with
  | nil => rfl
  | cons b u ih =>
    by_cases hb : P b = true
    · rw [List.takeWhile_cons_of_pos hb, List.filter_cons_of_pos hb, ih b (Convex_tail h) hb]
    · rw [List.takeWhile_cons_of_neg hb, List.filter_cons_of_neg hb, eq_comm, List.filter_eq_nil_iff]
      intro c hc hpc
      obtain ⟨l3, l4, rfl⟩ := List.append_of_mem hc
      exact hb (h a b c [] [] l3 l4 (by simp) ha hpc)

theorem run_eq_filter_convex {α} (P : α → Bool) (l : List α) (h : Convex P l) :
    (l.dropWhile (fun r => !P r)).takeWhile P = l.filter P := by
  induction l with
  | nil => rfl
  | cons a t ih =>
    by_cases ha : P a = true
    · rw [List.dropWhile_cons_of_neg (by simp [ha]), List.takeWhile_cons_of_pos ha,
        List.filter_cons_of_pos ha, takeWhile_eq_filter_convex P a t h ha]
    · rw [List.dropWhile_cons_of_pos (by simpa using ha), List.filter_cons_of_neg ha, ih (Convex_tail h)]

theorem prefix_of_between (k x y z : List Char) (h1 : k ++ x < y) (h2 : y < k ++ z) : k <+: y := by
  induction k generalizing y with
  | nil => exact List.nil_prefix
  | cons a as ih =>
    cases y with
    | nil => simp at h1
    | cons b bs =>
      rw [List.cons_append, List.cons_lt_cons_iff] at h1 h2
      rcases h1 with h1 | ⟨rfl, h1⟩
      · rcases h2 with h2 | ⟨rfl, h2⟩
        · exact absurd h2 (Char.lt_asymm h1)
        · exact absurd h1 (Char.lt_irrefl _)
      · rcases h2 with h2 | ⟨_, h2⟩
        · exact absurd h2 (Char.lt_irrefl _)
        · exact List.cons_prefix_cons.2 ⟨rfl, ih bs h1 h2⟩

def dayOf (r : Rec) : List Char := r.take 8
def SortedByDay (recs : List Rec) : Prop := recs.Pairwise (fun a b => cmpChars (dayOf a) (dayOf b) = .lt)

theorem convex_isPrefix_of_sorted (key : List Char) (hk : key.length ≤ 8) (l : List (List Char))
    (hs : l.Pairwise (fun a b => cmpChars (a.take 8) (b.take 8) = .lt)) :
    Convex (fun r => isPrefix key r) l := by
  intro a b c l1 l2 l3 l4 hl ha hc
  have h3 := hs.sublist (l₁ := [a, b, c]) (by rw [hl]; simp)
  rw [List.pairwise_cons, List.pairwise_cons] at h3
  have hab := h3.1 b (by simp)
  have hbc := h3.2.1 c (by simp)
  rw [isPrefix_iff] at ha hc ⊢
  obtain ⟨ta, rfl⟩ := ha
  obtain ⟨tc, rfl⟩ := hc
  rw [cmpChars_lt_iff, List.take_append, List.take_of_length_le hk] at hab hbc
  exact (prefix_of_between _ _ _ _ hab hbc).trans (List.take_prefix 8 b)

theorem forward_view_eq_filter (st : HolidayState) (recs : List Rec) (key : List Char) (hd : st.data = flat recs) (hw : WF recs)
    (hs : SortedByDay recs) (hk : 1 ≤ key.length ∧ key.length ≤ 8) (hb : ∀ r ∈ recs, (buildForward st r).isSome = true) :
    findHolidaysForward st key = some ((recs.filter (fun r => isPrefix key r)).filterMap (buildForward st)) := by
  rw [forwardRun_spec st recs key hd hw ⟨hk.1, by omega⟩ hb]
  exact congrArg (fun l => some (List.filterMap (buildForward st) l))
    (run_eq_filter_convex _ recs (convex_isPrefix_of_sorted key hk.2 recs hs))

theorem skipToSuffix_flatten (key : List Char) (hk : key.length ≤ 18) (l : List (List Char))
    (hw : ∀ r ∈ l, r.length = 18) (fuel : Nat) (hf : l.length < fuel) :
    skipToSuffix key fuel l.reverse.flatten = (l.dropWhile (fun r => !isSuffix key r)).reverse.flatten := by
  induction l generalizing fuel with
  | nil => cases fuel <;> simp [skipToSuffix, recSize]
  | cons r rs ih =>
    obtain ⟨f, rfl⟩ : ∃ f, fuel = f + 1 := ⟨fuel - 1, by omega⟩
    rw [List.forall_mem_cons] at hw
    rw [List.reverse_cons, List.flatten_concat, skipToSuffix, recSize, if_neg (by simp [hw.1]),
      isSuffix_append_left _ _ _ (by omega), List.take_left' (by simp [hw.1]), ih hw.2 f (by simpa using hf),
      List.dropWhile_cons]
    cases isSuffix key r <;> simp

/-- `findBackward` cuts after the hit (which ends at offset `q`) back to a record boundary -/
theorem align_bwd (d : List Char) (q : Nat) (hq : q ≤ d.length) :
    (if (d.take q).length % recSize > 0 then (d.take q).take ((d.take q).length - (d.take q).length % recSize)
      else d.take q) = d.take (18 * (q / 18)) := by
  rw [List.length_take, recSize, Nat.min_eq_left hq]
  split
  · rw [List.take_take]; congr 1; omega
  · congr 1; omega

theorem isPrefix_flatten_drop_of_isSuffix (key : List Char) (hk : key.length ≤ 18) (l : List (List Char))
    (hw : ∀ r ∈ l, r.length = 18) (i : Nat) (hi : i < l.length) (hs : isSuffix key l[i] = true) :
    isPrefix key (l.flatten.drop (18 * i + (18 - key.length))) = true := by
  obtain ⟨t, ht⟩ := (isSuffix_iff _ _).1 hs
  have htl : t.length = 18 - key.length := by
    have := hw _ (List.getElem_mem hi)
    rw [← ht, List.length_append] at this; omega
  rw [← List.drop_drop, flatten_drop_mul l hw, List.drop_eq_getElem_cons hi, List.flatten_cons, ← ht,
    List.append_assoc, List.drop_left' htl, isPrefix_iff]
  exact List.prefix_append _ _

theorem findBackward_flatten (recs : List (List Char)) (key : List Char) (hw : ∀ r ∈ recs, r.length = 18)
    (hk : 1 ≤ key.length ∧ key.length ≤ 18) :
    findBackward recs.flatten key = (recs.reverse.dropWhile (fun r => !isSuffix key r)).reverse.flatten := by
  have hk0 : key ≠ [] := List.ne_nil_of_length_pos hk.1
  have hlen := flatten_length_eq_mul recs hw
  unfold findBackward
  rcases lastIndexOf_spec key hk0 recs.flatten 0 none with ⟨h1, h2⟩ | ⟨p, h1, hpre, hmax⟩
  · rw [h1, dropWhile_eq_nil]; rfl
    intro r hr
    obtain ⟨i, hi, rfl⟩ := List.getElem_of_mem (List.mem_reverse.1 hr)
    rw [Bool.not_eq_true', ← Bool.not_eq_true]
    intro hs
    have := isPrefix_flatten_drop_of_isSuffix key hk.2 recs hw i hi hs
    rw [h2] at this; cases this
  · have hle : p + key.length ≤ recs.flatten.length := by
      have := ((isPrefix_iff _ _).1 hpre).length_le
      rw [List.length_drop] at this; omega
    have hwt : ∀ r ∈ (recs.take ((p + key.length) / 18)).reverse, r.length = 18 :=
      fun r hr => hw r (List.mem_of_mem_take (List.mem_reverse.1 hr))
    have hskip := skipToSuffix_flatten key hk.2 _ hwt ((recs.take ((p + key.length) / 18)).flatten.length / recSize + 1)
      (by rw [List.length_reverse, flatten_length_eq_mul _ (fun r hr => hw r (List.mem_of_mem_take hr)), recSize]; omega)
    rw [List.reverse_reverse] at hskip
    rw [h1]
    simp only [Nat.zero_add]
    rw [align_bwd _ _ hle, flatten_take_mul recs hw, hskip]
    -- the records after the boundary end after the last occurrence, so none of them ends with the key
    congr 2
    conv => rhs; rw [← List.take_append_drop ((p + key.length) / 18) recs, List.reverse_append]
    refine (List.dropWhile_append_of_pos fun r hr => ?_).symm
    obtain ⟨j, hj, rfl⟩ := List.mem_drop_iff_getElem.1 (List.mem_reverse.1 hr)
    rw [Bool.not_eq_true', ← Bool.not_eq_true]
    intro hs
    have := isPrefix_flatten_drop_of_isSuffix key hk.2 recs hw _ (by omega) hs
    rw [hmax _ (by omega)] at this; cases this

theorem findBackward_spec (recs : List Rec) (key : List Char) (hw : WF recs) (hk : 1 ≤ key.length ∧ key.length ≤ 18) :
    findBackward (flat recs) key = flat ((recs.reverse.dropWhile (fun r => !isSuffix key r)).reverse) :=
  findBackward_flatten recs key hw hk

theorem buildBackward_append (st : HolidayState) (x r : List Char) (h : r.length = 18) :
    buildBackward st (x ++ r) = buildForward st r := by
  rw [buildBackward, recSize, if_neg (by simp [h]), List.drop_left' (by simp [h])]

/-- the loop of the old by-target lookup on a list of records: the trailing run of records ending with the key -/
theorem collectBackward_flatten (st : HolidayState) (key : List Char) (hk : 1 ≤ key.length ∧ key.length ≤ 18)
    (l : List (List Char)) (hw : ∀ r ∈ l, r.length = 18) (hb : ∀ r ∈ l, (buildForward st r).isSome = true) :
    (let s := l.reverse.flatten
     if s.isEmpty then some [] else collectBackward st key (s.length / recSize + 2) s []) =
      some ((l.takeWhile (fun r => isSuffix key r)).reverse.filterMap (buildForward st)) := by
  have hk0 : key ≠ [] := List.ne_nil_of_length_pos hk.1
  have h (fuel : Nat) (hf : l.length < fuel) (acc : List Holiday) :
      collectBackward st key fuel l.reverse.flatten acc =
        some ((l.takeWhile (fun r => isSuffix key r)).reverse.filterMap (buildForward st) ++ acc) := by
    induction l generalizing fuel acc with
    | nil => cases fuel <;> simp [collectBackward, isSuffix_nil_right key hk0]
    | cons r rs ih =>
      obtain ⟨f, rfl⟩ : ∃ f, fuel = f + 1 := ⟨fuel - 1, by omega⟩
      rw [List.forall_mem_cons] at hw hb
      obtain ⟨h, hh⟩ := Option.isSome_iff_exists.1 hb.1
      rw [List.reverse_cons, List.flatten_concat, collectBackward, isSuffix_append_left _ _ _ (by omega),
        buildBackward_append _ _ _ hw.1, hh, recSize, List.take_left' (by simp [hw.1]), List.takeWhile_cons]
      cases isSuffix key r <;> simp [hh, ih hw.2 hb.2 f (by simpa using hf)]
  have hwrap (s : List Char) : (if s.isEmpty then some [] else collectBackward st key (s.length / recSize + 2) s [])
      = collectBackward st key (s.length / recSize + 2) s [] := by
    cases s <;> simp [collectBackward, isSuffix_nil_right key hk0]
  rw [← List.append_nil (List.filterMap _ _)]
  exact (hwrap _).trans (h _ (List.length_reverse ▸ Nat.lt_succ_of_lt (length_lt_fuel l.reverse fun x hx => hw x (List.mem_reverse.1 hx))) [])

/-- the by-target lookup of the library BEFORE its `fix:` commit: ONE contiguous run of records, ending
at the last record found by `strings.LastIndex`. Not part of the model (`findHolidaysBackward` is the
lookup after that commit); specified here to show on which tables it was wrong -/
def hol_findHolidaysBackwardOld (st : HolidayState) (key : List Char) : Option (List Holiday) :=
  let s := findBackward st.data key
  if s.isEmpty then some [] else collectBackward st key (s.length / recSize + 2) s []

theorem hol_backwardRunOld_spec (st : HolidayState) (recs : List Rec) (key : List Char)
    (hd : st.data = flat recs) (hw : WF recs)
    (hk : 1 ≤ key.length ∧ key.length ≤ 18) (hb : ∀ r ∈ recs, (buildForward st r).isSome = true) :
    hol_findHolidaysBackwardOld st key =
      some (((recs.reverse.dropWhile (fun r => !isSuffix key r)).takeWhile (fun r => isSuffix key r)).reverse.filterMap
        (buildForward st)) := by
  rw [hol_findHolidaysBackwardOld, hd, findBackward_spec recs key hw hk]
  exact collectBackward_flatten st key hk _
    (fun r hr => hw r (List.mem_reverse.1 (List.dropWhile_subset _ hr)))
    (fun r hr => hb r (List.mem_reverse.1 (List.dropWhile_subset _ hr)))

theorem Convex.reverse {α} {P : α → Bool} {l : List α} (h : Convex P l) : Convex P l.reverse := by
  intro a b c l1 l2 l3 l4 hl ha hc
  refine h c b a l4.reverse l3.reverse l2.reverse l1.reverse ?_ hc ha
  rw [← List.reverse_reverse l, hl]; simp

theorem Convex.congr {α} {P Q : α → Bool} {l : List α} (h : Convex P l) (hpq : ∀ x ∈ l, P x = Q x) :
    Convex Q l := by
  intro a b c l1 l2 l3 l4 hl ha hc
  subst hl
  rw [← hpq _ (by simp)] at ha hc ⊢
  exact h a b c _ _ _ _ rfl ha hc

def targetOf (r : Rec) : List Char := r.drop 10

theorem isSuffix8 (key r : List Char) (hk : key.length = 8) (hr : r.length = 18) :
    isSuffix key r = (r.drop 10 == key) := by
  rw [Bool.eq_iff_iff, isSuffix_iff, beq_iff_eq, List.suffix_iff_eq_drop, hk, hr, eq_comm]

theorem backwardRun_eq_filter (key : List Char) (hk : key.length = 8) (l : List (List Char))
    (hw : ∀ r ∈ l, r.length = 18) (hc : Convex (fun r => r.drop 10 == key) l) :
    ((l.reverse.dropWhile (fun r => !isSuffix key r)).takeWhile (fun r => isSuffix key r)).reverse =
      l.filter (fun r => r.drop 10 == key) := by
  have hS : ∀ r ∈ l, (r.drop 10 == key) = isSuffix key r := fun r hr => (isSuffix8 key r hk (hw r hr)).symm
  rw [run_eq_filter_convex _ _ (hc.congr hS).reverse, List.filter_reverse, List.reverse_reverse,
    List.filter_congr hS]

/-- what the OLD algorithm (`hol_findHolidaysBackwardOld`) computed: the filter only if the records with
that target are contiguous -/
theorem hol_backwardOld_view_eq_filter (st : HolidayState) (recs : List Rec) (key : List Char) (hd : st.data = flat recs) (hw : WF recs)
    (hk : key.length = 8) (hb : ∀ r ∈ recs, (buildForward st r).isSome = true)
    (hc : ∀ a b c : Rec, ∀ l1 l2 l3 l4, recs = l1 ++ [a] ++ l2 ++ [b] ++ l3 ++ [c] ++ l4 → targetOf a = key → targetOf c = key → targetOf b = key) :
    hol_findHolidaysBackwardOld st key = some ((recs.filter (fun r => targetOf r == key)).filterMap (buildForward st)) := by
  rw [hol_backwardRunOld_spec st recs key hd hw ⟨by omega, by omega⟩ hb]
  exact congrArg (fun l => some (List.filterMap (buildForward st) l))
    (backwardRun_eq_filter key hk recs hw fun a b c l1 l2 l3 l4 hl ha hc' =>
      beq_iff_eq.2 (hc a b c l1 l2 l3 l4 hl (beq_iff_eq.1 ha) (beq_iff_eq.1 hc')))

theorem alignedRecords_flatten (l : List (List Char)) (hw : ∀ r ∈ l, r.length = 18) (fuel : Nat)
    (hf : l.length < fuel) : alignedRecords fuel l.flatten = l := by
  induction l generalizing fuel with
  | nil => cases fuel <;> simp [alignedRecords, recSize]
  | cons r rs ih =>
    obtain ⟨f, rfl⟩ : ∃ f, fuel = f + 1 := ⟨fuel - 1, by omega⟩
    rw [List.forall_mem_cons] at hw
    rw [List.flatten_cons, alignedRecords, recSize, if_neg (by simp [hw.1]), List.take_left' hw.1,
      List.drop_left' hw.1, ih hw.2 f (by simpa using hf)]

theorem alignedRecords_flat (recs : List Rec) (hw : WF recs) :
    alignedRecords ((flat recs).length / recSize + 1) (flat recs) = recs :=
  alignedRecords_flatten recs hw _ (length_lt_fuel recs hw)

theorem mapM_eq_some_filterMap {α β} (f : α → Option β) (l : List α) (h : ∀ x ∈ l, (f x).isSome = true) :
    l.mapM f = some (l.filterMap f) := by
  induction l with
  | nil => rfl
  | cons a t ih =>
    rw [List.forall_mem_cons] at h
    obtain ⟨b, hb⟩ := Option.isSome_iff_exists.1 h.1
    rw [List.mapM_cons, hb, ih h.2, List.filterMap_cons_some hb]; rfl

/-- the by-target view is the filter; no contiguity hypothesis is needed (compare
`hol_backwardOld_view_eq_filter`) -/
theorem backward_view_eq_filter (st : HolidayState) (recs : List Rec) (key : List Char) (hd : st.data = flat recs) (hw : WF recs)
    (hk : key.length = 8) (hb : ∀ r ∈ recs, (buildForward st r).isSome = true) :
    findHolidaysBackward st key = some ((recs.filter (fun r => targetOf r == key)).filterMap (buildForward st)) := by
  rw [findHolidaysBackward, hd, alignedRecords_flat recs hw,
    List.filter_congr fun r hr => isSuffix8 key r hk (hw r hr)]
  exact mapM_eq_some_filterMap _ _ fun r hr => hb r (List.mem_filter.1 hr).1

/-- `WF` and `flat` spelled out for `List (List Char)`, for stating concrete record lists -/
def WF0 (recs : List (List Char)) : Prop := ∀ r ∈ recs, r.length = 18
def flat0 (recs : List (List Char)) : List Char := recs.flatten

theorem WF0_of_all (l : List (List Char)) (h : l.all (fun r => r.length == 18) = true) : WF0 l :=
  fun r hr => by simpa using List.all_eq_true.1 h r hr

/-- a fact about the OLD algorithm (`findBackward` / `collectBackward`, i.e. `hol_findHolidaysBackwardOld`):
for it the contiguity hypothesis was necessary. Three well-formed, buildable records, the first and the
last with target 20200101, the middle one with another target: the old by-target view returns only
the last record although two records carry the target; the current `findHolidaysBackward` returns both -/
theorem backward_contiguity_necessary :
    ∃ (st : HolidayState) (recs : List Rec) (key : List Char),
      st.data = flat recs ∧ WF recs ∧ key.length = 8 ∧
      (∀ r ∈ recs, (buildForward st r).isSome = true) ∧
      (hol_findHolidaysBackwardOld st key).map List.length = some 1 ∧
      (recs.filter (fun r => targetOf r == key)).length = 2 ∧
      (findHolidaysBackward st key).map List.length = some 2 :=
  ⟨⟨"201912310020200101202001020120200102202001030120200101".toList, ["a"]⟩,
   ["201912310020200101".toList, "202001020120200102".toList, "202001030120200101".toList],
   "20200101".toList, by decide +kernel, WF0_of_all _ (by decide +kernel), by decide +kernel⟩

example : ∃ st key, (hol_findHolidaysBackwardOld st key).map List.length = some 1 ∧
    ∃ recs : List Rec, st.data = flat recs ∧ WF recs ∧ (recs.filter (fun r => targetOf r == key)).length = 2 := by
  obtain ⟨st, recs, key, h1, h2, _, _, h5, h6, _⟩ := backward_contiguity_necessary
  exact ⟨st, key, h5, recs, h1, h2, h6⟩

/-- a mis-aligned `strings.Index` hit, kernel-checked: in these 5 records the key "01012002" first
occurs at offset 32 (the tail "0101" of the target field of record 1 followed by the head "2002" of
record 2, i.e. across a record boundary); the first record having it as a prefix is record 4
(offset 72), which is what `findForward` returns -/
example :
    let recs : List (List Char) := ["200112290020020101".toList, "200112300020020101".toList,
      "200201010120020101".toList, "200201020120020101".toList, "010120020120010101".toList]
    indexOf "01012002".toList recs.flatten 0 = some 32 ∧
      findForward recs.flatten "01012002".toList = "010120020120010101".toList := by decide +kernel

theorem isPrefix8 (key r : List Char) (hk : key.length = 8) : isPrefix key r = true ↔ r.take 8 = key := by
  rw [isPrefix_iff, List.prefix_iff_eq_take, hk, eq_comm]

theorem take8_length (seg : List Char) (hl : seg.length = 18) : (seg.take 8).length = 8 := by
  rw [List.length_take, hl]; rfl

theorem filter_isPrefix8_eq_nil (key : List Char) (hk : key.length = 8) (l : List (List Char))
    (h : ∀ r ∈ l, r.take 8 ≠ key) : l.filter (fun r => isPrefix key r) = [] :=
  List.filter_eq_nil_iff.2 fun r hr hp => h r hr ((isPrefix8 key r hk).1 hp)

/-- what the `Fix` theorems assume: `recs` are the records of the table of `st`, well-formed, sorted by
day and buildable -/
structure SortedTable (st : HolidayState) (recs : List (List Char)) : Prop where
  data : st.data = recs.flatten
  wf : ∀ r ∈ recs, r.length = 18
  sorted : recs.Pairwise (fun a b => cmpChars (a.take 8) (b.take 8) = .lt)
  buildable : ∀ r ∈ recs, (buildForward st r).isSome = true

theorem SortedTable.getHoliday {st : HolidayState} {recs : List (List Char)} (ht : SortedTable st recs)
    (key : List Char) (hk : key.length = 8) : getHoliday st key =
      some ((recs.filter (fun r => isPrefix key r)).filterMap (buildForward st)).head? := by
  rw [Model.getHoliday, forward_view_eq_filter st recs key ht.data ht.wf ht.sorted ⟨by omega, by omega⟩
    ht.buildable]
  rfl

theorem getHoliday_absent {st : HolidayState} {recs : List (List Char)} (ht : SortedTable st recs)
    (key : List Char) (hk : key.length = 8) (hnew : ∀ r ∈ recs, r.take 8 ≠ key) :
    getHoliday st key = some none := by
  rw [ht.getHoliday key hk, filter_isPrefix8_eq_nil key hk recs hnew]
  rfl

theorem getHoliday_present {st : HolidayState} {pre post : List (List Char)} {r : List Char}
    (ht : SortedTable st (pre ++ [r] ++ post)) (h : Holiday) (hh : buildForward st r = some h) :
    getHoliday st (r.take 8) = some (some h) := by
  have hk := take8_length r (ht.wf r (by simp))
  have hs := ht.sorted
  simp only [List.pairwise_append, cmpChars_lt_iff] at hs
  rw [ht.getHoliday _ hk]
  rw [List.filter_append, List.filter_append,
    filter_isPrefix8_eq_nil _ hk pre fun x hx e => List.lt_irrefl _ (e ▸ hs.1.2.2 x hx r (by simp)),
    filter_isPrefix8_eq_nil _ hk post fun x hx e => List.lt_irrefl _ (e ▸ hs.2.2 r (by simp) x hx),
    List.filter_cons_of_pos ((isPrefix8 _ r hk).2 rfl)]
  simp [hh]

/-- `insertSorted` splits a day-sorted table without `day` into the smaller and the larger days -/
theorem insertSorted_split (day seg : List Char) (l : List (List Char)) (hw : ∀ r ∈ l, r.length = 18)
    (hs : l.Pairwise (fun a b => cmpChars (a.take 8) (b.take 8) = .lt)) (hnew : ∀ r ∈ l, r.take 8 ≠ day) :
    ∃ pre post, l = pre ++ post ∧ (∀ r ∈ pre, cmpChars (r.take 8) day = .lt) ∧
      (∀ r ∈ post, cmpChars day (r.take 8) = .lt) ∧
      ∀ fuel, l.length < fuel → insertSorted day seg fuel l.flatten = (pre ++ [seg] ++ post).flatten := by
  induction l with
  | nil => exact ⟨[], [], rfl, by simp, by simp, fun fuel _ => by cases fuel <;> simp [insertSorted, recSize]⟩
  | cons r rs ih =>
    rw [List.forall_mem_cons] at hw hnew
    rw [List.pairwise_cons] at hs
    have ht : (r ++ rs.flatten).take 8 = r.take 8 := List.take_append_of_le_length (by omega)
    by_cases hc : cmpChars (r.take 8) day = .lt
    · obtain ⟨pre, post, rfl, h1, h2, hi⟩ := ih hw.2 hs.2 hnew.2
      refine ⟨r :: pre, post, rfl, List.forall_mem_cons.2 ⟨hc, h1⟩, h2, fun fuel hf => ?_⟩
      obtain ⟨f, rfl⟩ : ∃ f, fuel = f + 1 := ⟨fuel - 1, by omega⟩
      rw [List.flatten_cons, insertSorted, recSize, ht, hc, List.take_left' hw.1, List.drop_left' hw.1,
        hi f (by simpa using hf)]
      simp [hw.1]
    · refine ⟨[], r :: rs, rfl, by simp, ?_, fun fuel _ => ?_⟩
      · -- `r` is not smaller and not equal, hence larger, and the others are larger than `r`
        simp only [cmpChars_lt_iff] at hc hs ⊢
        have hr := (Std.lt_trichotomy (r.take 8) day).resolve_left hc |>.resolve_left hnew.1
        exact List.forall_mem_cons.2 ⟨hr, fun x hx => List.lt_trans hr (hs.1 x hx)⟩
      · cases fuel <;> simp [insertSorted, ht, hc]

theorem fix_one_segment (st : HolidayState) (seg : List Char) (hl : seg.length = 18) :
    fix st none seg = (fixLoop st.names 2 seg st.data).map (fun data => ⟨data, st.names⟩) := by
  have : seg.isEmpty = false := by cases seg <;> simp_all
  simp only [fix, this, Bool.false_eq_true, if_false, hl, recSize]

theorem fixLoop_absent (names : List String) (data seg : List Char) (hl : seg.length = 18)
    (hg : getHoliday ⟨data, names⟩ (seg.take 8) = some none) :
    fixLoop names 2 seg data =
      some (if (seg.getD 8 ' ' == '~') = true then data
        else insertSorted (seg.take 8) seg (data.length / recSize + 1) data) := by
  simp [fixLoop, hl, recSize, hg, List.take_of_length_le]

theorem fixLoop_present (names : List String) (data seg : List Char) (h : Holiday) (idx : Nat)
    (hl : seg.length = 18) (hg : getHoliday ⟨data, names⟩ (seg.take 8) = some (some h))
    (hi : names.findIdx? (· == h.name) = some idx) :
    fixLoop names 2 seg data =
      some (replaceAll (seg.take 8 ++ [Char.ofNat (idx + 48)] ++ [if h.work then '0' else '1'] ++ undash h.target)
        (if (seg.getD 8 ' ' == '~') = true then [] else seg) data) := by
  simp [fixLoop, hl, recSize, hg, hi, List.take_of_length_le]

theorem fix_of_absent {st : HolidayState} {recs : List (List Char)} (ht : SortedTable st recs)
    (seg : List Char) (hl : seg.length = 18) (hnew : ∀ r ∈ recs, r.take 8 ≠ seg.take 8) :
    fix st none seg = some ⟨if (seg.getD 8 ' ' == '~') = true then st.data
      else insertSorted (seg.take 8) seg (st.data.length / recSize + 1) st.data, st.names⟩ := by
  rw [fix_one_segment st seg hl, fixLoop_absent st.names st.data seg hl
    (getHoliday_absent ht _ (take8_length seg hl) hnew)]
  rfl

theorem pairwise_insert {α} {R : α → α → Prop} {pre post : List α} {x : α} (hs : (pre ++ post).Pairwise R)
    (h1 : ∀ a ∈ pre, R a x) (h2 : ∀ b ∈ post, R x b) : (pre ++ [x] ++ post).Pairwise R := by
  rw [List.pairwise_append] at hs
  rw [List.append_assoc, List.pairwise_append, List.singleton_append, List.pairwise_cons]
  exact ⟨hs.1, ⟨h2, hs.2.1⟩, fun a ha b hb => (List.mem_cons.1 hb).elim (· ▸ h1 a ha) (hs.2.2 a ha b)⟩

theorem forall_mem_middle {α} {p : α → Prop} {pre post : List α} {x : α} :
    (∀ a ∈ pre ++ [x] ++ post, p a) ↔ p x ∧ ∀ a ∈ pre ++ post, p a := by
  simp only [List.mem_append, List.mem_singleton]
  grind

theorem pairwise_replace {α β : Type} (f : α → β) {R : β → β → Prop} {pre post : List α} {x y : α} (h : f x = f y)
    (hs : (pre ++ [x] ++ post).Pairwise (fun a b => R (f a) (f b))) :
    (pre ++ [y] ++ post).Pairwise (fun a b => R (f a) (f b)) := by
  rw [← List.pairwise_map (f := f) (R := R)] at hs ⊢
  simpa [h] using hs

/-- ADD: if no record has that day and the segment is not a removal, the new table is the old records
with `seg` inserted at its sorted place; still well-formed and sorted; all old records unchanged -/
theorem fix_add (st : HolidayState) (recs : List Rec) (seg : List Char) (hd : st.data = flat recs) (hw : WF recs) (hs : SortedByDay recs)
    (hb : ∀ r ∈ recs, (buildForward st r).isSome = true) (hl : seg.length = 18) (hnr : seg.getD 8 ' ' ≠ '~')
    (hnew : ∀ r ∈ recs, dayOf r ≠ seg.take 8) :
    ∃ pre post, recs = pre ++ post ∧ (∀ r ∈ pre, cmpChars (dayOf r) (seg.take 8) = .lt) ∧ (∀ r ∈ post, cmpChars (seg.take 8) (dayOf r) = .lt) ∧
      fix st none seg = some ⟨flat (pre ++ ([seg] : List Rec) ++ post), st.names⟩ ∧ SortedByDay (pre ++ ([seg] : List Rec) ++ post) ∧ WF (pre ++ ([seg] : List Rec) ++ post) := by
  obtain ⟨pre, post, rfl, h1, h2, hi⟩ := insertSorted_split (seg.take 8) seg recs hw hs hnew
  refine ⟨pre, post, rfl, h1, h2, ?_, pairwise_insert hs h1 h2, forall_mem_middle.2 ⟨hl, hw⟩⟩
  rw [fix_of_absent ⟨hd, hw, hs, hb⟩ seg hl hnew, if_neg (by simpa using hnr), hd]
  exact congrArg (fun d => some (HolidayState.mk d st.names)) (hi _ (length_lt_fuel _ hw))

/-- REMOVE of an absent day: nothing changes -/
theorem fix_remove_absent (st : HolidayState) (recs : List Rec) (seg : List Char) (hd : st.data = flat recs) (hw : WF recs) (hs : SortedByDay recs)
    (hb : ∀ r ∈ recs, (buildForward st r).isSome = true) (hl : seg.length = 18) (hr : seg.getD 8 ' ' = '~') (hnew : ∀ r ∈ recs, dayOf r ≠ seg.take 8) :
    fix st none seg = some ⟨st.data, st.names⟩ := by
  rw [fix_of_absent ⟨hd, hw, hs, hb⟩ seg hl hnew, hr]
  rfl

/-! ### REPLACE / REMOVE of a day that is in the table

`fixLoop` does not edit the record it found: it REBUILDS the 18 characters `old` from the parsed
`Holiday` (day, index of the name in the name table, work flag, target) and calls
`strings.Replace(data, old, new, -1)`, which replaces EVERY occurrence of these 18 characters, aligned
to the record grid or not. So besides sortedness the theorems below need
  * `st.names.Nodup` (else `findIdx?` may return another index than the record's name digit),
  * the work flag of the record is '0' or '1' and its target field has no '-' (else `old ≠ r` and nothing
    is replaced),
  * `hol_OccursOnlyAligned`: the 18 characters of `r` occur in the table ONLY at `r`'s own position
    (an example after the theorems shows what happens otherwise). -/

theorem findIdx?_getD_of_nodup {α} [BEq α] [LawfulBEq α] (l : List α) (hn : l.Nodup) (i : Nat) (hi : i < l.length) (d : α) :
    l.findIdx? (· == l.getD i d) = some i := by
  rw [List.getD_eq_getElem?_getD, List.getElem?_eq_getElem hi, Option.getD_some,
    List.findIdx?_eq_some_iff_getElem]
  exact ⟨hi, by simp, fun j hj => by simpa using List.pairwise_iff_getElem.1 hn j i _ hi hj⟩

theorem rec_split (r : List Char) (hr : r.length = 18) :
    r.take 8 ++ [r.getD 8 '0'] ++ [r.getD 9 ' '] ++ r.drop 10 = r := by
  have h8 : 8 < r.length := by omega
  have h9 : 9 < r.length := by omega
  conv => rhs; rw [← List.take_append_drop 8 r, List.drop_eq_getElem_cons h8, List.drop_eq_getElem_cons h9]
  simp [List.getD_eq_getElem?_getD, h8, h9]

theorem undash_dashed (d : List Char) (h : ∀ c ∈ d, c ≠ '-') : undash (dashed d) = d := by
  have hf : ∀ l : List Char, (∀ c ∈ l, c ∈ d) → l.filter (· != '-') = l :=
    fun l hl => List.filter_eq_self.2 fun c hc => by simpa using h c (hl c hc)
  rw [dashed, if_neg fun hc => h _ (by simpa using hc) rfl, undash]
  simp only [List.filter_append, hf _ fun c => List.mem_of_mem_take, hf _ fun c => List.mem_of_mem_drop,
    hf _ fun c hc => List.mem_of_mem_drop (List.mem_of_mem_take hc)]
  rw [show ['-'].filter (· != '-') = [] from rfl, show d.drop 6 = (d.drop 4).drop 2 by rw [List.drop_drop],
    List.append_nil, List.append_nil, List.append_assoc, List.take_append_drop, List.take_append_drop]

theorem replaceAll_go_skip (old new a s : List Char) (fuel : Nat)
    (h : ∀ p, p < a.length → isPrefix old ((a ++ s).drop p) = false) :
    replaceAll.go old new (fuel + a.length) (a ++ s) = a ++ replaceAll.go old new fuel s := by
  induction a with
  | nil => rfl
  | cons c a ih =>
    have h0 : isPrefix old (c :: (a ++ s)) = false := h 0 (by simp)
    rw [List.length_cons, ← Nat.add_assoc, List.cons_append, replaceAll.go, h0,
      ih fun p hp => h (p + 1) (by simpa using hp)]
    simp

theorem replaceAll_unique (old new a b : List Char) (ho : old ≠ [])
    (hocc : ∀ p, isPrefix old ((a ++ old ++ b).drop p) = true → p = a.length) :
    replaceAll old new (a ++ old ++ b) = a ++ new ++ b := by
  have hpos : 0 < old.length := List.length_pos_iff.2 ho
  have hskip : ∀ p, p < a.length → isPrefix old ((a ++ (old ++ b)).drop p) = false := fun p hp =>
    Bool.eq_false_iff.2 fun ht => by have := hocc p (by rwa [List.append_assoc]); omega
  have hb : ∀ q, isPrefix old (b.drop q) = false := fun q => Bool.eq_false_iff.2 fun ht => by
    have := hocc (a.length + old.length + q) (by rwa [← List.drop_drop, ← List.length_append, List.drop_left])
    omega
  obtain ⟨c, cs, hc⟩ := List.exists_cons_of_ne_nil ho
  rw [replaceAll, List.append_assoc,
    show (a ++ (old ++ b)).length + 1 = old.length + b.length + 1 + a.length by simp; omega,
    replaceAll_go_skip old new a _ _ hskip, List.append_assoc]
  congr 1
  -- one replacement at the occurrence, none behind it
  have hp : isPrefix old (old ++ b) = true := (isPrefix_iff _ _).2 (List.prefix_append _ _)
  conv => lhs; arg 4; rw [hc, List.cons_append]
  have hb' := replaceAll_go_skip old new b [] old.length fun p _ => by simpa using hb p
  rw [List.append_nil] at hb'
  rw [replaceAll.go, ← List.cons_append, ← hc, hp, List.drop_left, hb']
  -- left: `old` is non-empty, so the test succeeds, and `go` of the empty string is empty
  cases old <;> simp_all [replaceAll.go]

/-- the string `fixLoop` rebuilds from the parsed holiday is the record itself -/
theorem rebuild_eq (st : HolidayState) (r : List Char) (h : Holiday) (hr : r.length = 18)
    (hh : buildForward st r = some h) (hwk : r.getD 9 ' ' = '0' ∨ r.getD 9 ' ' = '1')
    (htg : ∀ c ∈ r.drop 10, c ≠ '-') (hn : st.names.Nodup) :
    ∃ idx, st.names.findIdx? (· == h.name) = some idx ∧
      r.take 8 ++ [Char.ofNat (idx + 48)] ++ [if h.work then '0' else '1'] ++ undash h.target = r := by
  have e3 : (r.drop 10).take 8 = r.drop 10 := List.take_of_length_le (by simp [hr])
  simp only [buildForward, hr, recSize, Nat.lt_irrefl, if_false, e3] at hh
  split at hh
  · cases hh
  · rename_i hc
    cases hh
    refine ⟨(r.getD 8 '0').toNat - 48, findIdx?_getD_of_nodup _ hn _ (by omega) _, ?_⟩
    have e1 : (r.getD 8 '0').toNat - 48 + 48 = (r.getD 8 '0').toNat := by omega
    have e2 : (if (r.getD 9 ' ' == '0') = true then '0' else '1') = r.getD 9 ' ' := by
      rcases hwk with e | e <;> rw [e] <;> rfl
    simp only [e1, Char.ofNat_toNat, e2, undash_dashed _ htg]
    exact rec_split r hr

/-- the 18 characters of `r` occur in `flat (pre ++ [r] ++ post)` only at `r`'s own (aligned) position -/
def hol_OccursOnlyAligned (pre : List Rec) (r : Rec) (post : List Rec) : Prop :=
  ∀ p, isPrefix r ((flat (pre ++ ([r] : List Rec) ++ post)).drop p) = true → p = 18 * pre.length

theorem fix_of_present {st : HolidayState} {pre post : List (List Char)} {r : List Char}
    (ht : SortedTable st (pre ++ [r] ++ post)) (seg : List Char) (hl : seg.length = 18)
    (hday : r.take 8 = seg.take 8) (hn : st.names.Nodup)
    (hwk : r.getD 9 ' ' = '0' ∨ r.getD 9 ' ' = '1') (htg : ∀ c ∈ r.drop 10, c ≠ '-')
    (hocc : hol_OccursOnlyAligned pre r post) :
    fix st none seg =
      some ⟨if (seg.getD 8 ' ' == '~') = true then (pre ++ post).flatten else (pre ++ [seg] ++ post).flatten,
        st.names⟩ := by
  have hr : r.length = 18 := ht.wf r (by simp)
  obtain ⟨h, hh⟩ := Option.isSome_iff_exists.1 (ht.buildable r (by simp))
  obtain ⟨idx, hi, hold⟩ := rebuild_eq st r h hr hh hwk htg hn
  have hfl : (pre ++ [r] ++ post).flatten = pre.flatten ++ r ++ post.flatten := by simp
  rw [fix_one_segment st seg hl, fixLoop_present st.names st.data seg h idx hl
    (hday ▸ getHoliday_present ht h hh) hi, ← hday, hold, ht.data, hfl,
    replaceAll_unique r _ pre.flatten post.flatten (by intro e; rw [e] at hr; cases hr)
      (fun p hp => by rw [flatten_length_eq_mul pre fun x hx => ht.wf x (by simp [hx])]; rw [← hfl] at hp; exact hocc p hp)]
  cases seg.getD 8 ' ' == '~' <;> simp

/-- REPLACE of a present day: the record `r` with the segment's day becomes `seg`, nothing else changes.
Extra hypotheses (all needed, see the comment above): distinct names, work flag '0'/'1', no '-' in
the target field, and `r` occurs as a character string only at its own aligned position. -/
theorem fix_replace (st : HolidayState) (pre post : List Rec) (r : Rec) (seg : List Char)
    (hd : st.data = flat (pre ++ ([r] : List Rec) ++ post)) (hw : WF (pre ++ ([r] : List Rec) ++ post))
    (hs : SortedByDay (pre ++ ([r] : List Rec) ++ post))
    (hb : ∀ x ∈ pre ++ ([r] : List Rec) ++ post, (buildForward st x).isSome = true) (hl : seg.length = 18)
    (hnr : seg.getD 8 ' ' ≠ '~') (hday : dayOf r = seg.take 8) (hn : st.names.Nodup)
    (hwk : r.getD 9 ' ' = '0' ∨ r.getD 9 ' ' = '1') (htg : ∀ c ∈ targetOf r, c ≠ '-')
    (hocc : hol_OccursOnlyAligned pre r post) :
    fix st none seg = some ⟨flat (pre ++ ([seg] : List Rec) ++ post), st.names⟩ ∧
      SortedByDay (pre ++ ([seg] : List Rec) ++ post) ∧ WF (pre ++ ([seg] : List Rec) ++ post) :=
  ⟨(fix_of_present ⟨hd, hw, hs, hb⟩ seg hl hday hn hwk htg hocc).trans
      (by rw [if_neg (by simpa using hnr)]; rfl),
    pairwise_replace (R := fun u v => cmpChars u v = .lt) dayOf hday hs,
    forall_mem_middle.2 ⟨hl, (forall_mem_middle.1 hw).2⟩⟩

/-- REMOVE of a present day: the record `r` with the segment's day disappears, nothing else changes
(same extra hypotheses as `fix_replace`) -/
theorem fix_remove_present (st : HolidayState) (pre post : List Rec) (r : Rec) (seg : List Char)
    (hd : st.data = flat (pre ++ ([r] : List Rec) ++ post)) (hw : WF (pre ++ ([r] : List Rec) ++ post))
    (hs : SortedByDay (pre ++ ([r] : List Rec) ++ post))
    (hb : ∀ x ∈ pre ++ ([r] : List Rec) ++ post, (buildForward st x).isSome = true) (hl : seg.length = 18)
    (hr : seg.getD 8 ' ' = '~') (hday : dayOf r = seg.take 8) (hn : st.names.Nodup)
    (hwk : r.getD 9 ' ' = '0' ∨ r.getD 9 ' ' = '1') (htg : ∀ c ∈ targetOf r, c ≠ '-')
    (hocc : hol_OccursOnlyAligned pre r post) :
    fix st none seg = some ⟨flat (pre ++ post), st.names⟩ ∧ SortedByDay (pre ++ post) ∧ WF (pre ++ post) :=
  ⟨(fix_of_present ⟨hd, hw, hs, hb⟩ seg hl hday hn hwk htg hocc).trans
      (by rw [if_pos (beq_iff_eq.2 hr)]; rfl),
    hs.sublist (by simp), (forall_mem_middle.1 hw).2⟩

/-- `hol_OccursOnlyAligned` is necessary, kernel-checked: three well-formed, buildable records, strictly
sorted by day, distinct names; the 18 characters of the third record `r` (day 20000101) also occur at
offset 10, across the boundary of the first two records (target field of the first ++ first ten
characters of the second). Removing day 20000101 makes `strings.Replace` delete BOTH occurrences:
the result is ONE corrupted record (head of the first ++ tail of the second) instead of the first two
records. -/
example :
    let a := "001000010020000101".toList
    let b := "002000010120000102".toList
    let r := "200001010020000101".toList
    let st : HolidayState := ⟨flat0 [a, b, r], ["a"]⟩
    WF0 [a, b, r] ∧ [a, b, r].Pairwise (fun x y => cmpChars (x.take 8) (y.take 8) = .lt) ∧
      (∀ x ∈ [a, b, r], (buildForward st x).isSome = true) ∧
      isPrefix r (st.data.drop 10) = true ∧
      (fix st none "20000101~~~~~~~~~~".toList).map (·.data) = some "001000010020000102".toList ∧
      flat0 [a, b] = "001000010020000101002000010120000102".toList :=
  ⟨WF0_of_all _ (by decide +kernel), by decide +kernel⟩

/-- number of working days among s+add, s+2·add, …, s+k·add -/
def workdaysBetween (st : HolidayState) (s : Solar) (add : Int) : Nat → Nat
  | 0 => 0
  | k + 1 => workdaysBetween st s add k + (match s.nextDay (add * ((k : Int) + 1)) with | some d => (if isWorkday st d = some true then 1 else 0) | none => 0)

/-- the loop started at `o = s + add·j` with `rest + 1` working days to go stops at a working day
`s + add·k`, and exactly `rest + 1` of the days after `j` up to `k` are working days -/
theorem workLoop_spec (st : HolidayState) (s : Solar) (hv : s.valid = true) (add : Int) (fuel : Nat) :
    ∀ (rest : Nat) (o r : Solar) (j : Nat), s.nextDay (add * (j : Int)) = some o →
      workLoop st add fuel (rest + 1) o = some r →
      isWorkday st r = some true ∧ ∃ k : Nat, j + 1 ≤ k ∧ s.nextDay (add * (k : Int)) = some r ∧
        workdaysBetween st s add k = workdaysBetween st s add j + (rest + 1) := by
  induction fuel with
  | zero => intro rest o r j hj h; simp [workLoop] at h
  | succ f ih =>
    intro rest o r j hj h
    rw [workLoop] at h
    cases hnd : o.nextDay add with
    | none => simp [hnd] at h
    | some o' =>
      have hj' : s.nextDay (add * ((j : Int) + 1)) = some o' := by
        rw [Int.mul_add, Int.mul_one]
        exact nextDay_nextDay s o o' _ _ hv hj hnd
      have hwb : workdaysBetween st s add (j + 1) =
          workdaysBetween st s add j + if isWorkday st o' = some true then 1 else 0 := by
        rw [workdaysBetween, hj']
      rw [← Int.natCast_succ] at hj'
      cases hw : isWorkday st o' with
      | none => simp [hnd, hw] at h
      | some b =>
        simp only [hnd, hw] at h
        rw [hw] at hwb
        cases b with
        | false =>
          obtain ⟨h1, k, hk1, hk2, hk3⟩ := ih rest o' r (j + 1) hj' h
          exact ⟨h1, k, by omega, hk2, by rw [hk3, hwb]; rfl⟩
        | true =>
          cases rest with
          | zero =>
            cases f <;> cases h <;> exact ⟨hw, j + 1, Nat.le_refl _, hj', hwb⟩
          | succ rest =>
            obtain ⟨h1, k, hk1, hk2, hk3⟩ := ih rest o' r (j + 1) hj' h
            exact ⟨h1, k, by omega, hk2, by rw [hk3, hwb]; simp; omega⟩

/-- `nextWorkday_spec` needs no bound on the year -/
theorem nextWorkday_spec_all (st : HolidayState) (s r : Solar) (n : Int) (fuel : Nat) (hv : s.valid = true)
    (hn : n ≠ 0) (h : nextWorkday st s n fuel = some r) :
    isWorkday st r = some true ∧ ∃ k : Nat, 1 ≤ k ∧ s.nextDay ((if n < 0 then -1 else 1) * (k : Int)) = some r ∧
      workdaysBetween st s (if n < 0 then -1 else 1) k = n.natAbs := by
  obtain ⟨m, hm⟩ : ∃ m, n.natAbs = m + 1 := ⟨n.natAbs - 1, by omega⟩
  rw [nextWorkday, if_neg hn, hm] at h
  have h0 : s.nextDay ((if n < 0 then -1 else 1) * ((0 : Nat) : Int)) = some s :=
    nextDay_eq_some s s _ hv hv (by simp) rfl rfl rfl
  obtain ⟨h1, k, hk1, hk2, hk3⟩ := workLoop_spec st s hv _ fuel m s r 0 h0 h
  exact ⟨h1, k, hk1, hk2, by rw [hk3, hm, workdaysBetween, Nat.zero_add]⟩

-- `hy` is part of the statement, not of the proof
set_option linter.unusedVariables false in
theorem nextWorkday_spec (st : HolidayState) (s r : Solar) (n : Int) (fuel : Nat) (hv : s.valid = true) (hy : 1 ≤ s.year) (hn : n ≠ 0)
    (h : nextWorkday st s n fuel = some r) :
    isWorkday st r = some true ∧ ∃ k : Nat, 1 ≤ k ∧ s.nextDay ((if n < 0 then -1 else 1) * (k : Int)) = some r ∧
      workdaysBetween st s (if n < 0 then -1 else 1) k = n.natAbs :=
  nextWorkday_spec_all st s r n fuel hv hn h

theorem nextWorkday_zero (st : HolidayState) (s : Solar) (fuel : Nat) : nextWorkday st s 0 fuel = some s := by
  simp [nextWorkday]

#print axioms findForward_spec
#print axioms findBackward_spec
#print axioms alignedRecords_flat
#print axioms backward_view_eq_filter
#print axioms hol_backwardOld_view_eq_filter
#print axioms forwardRun_spec
#print axioms forward_view_eq_filter
#print axioms backward_contiguity_necessary
#print axioms fix_add
#print axioms fix_remove_absent
#print axioms fix_replace
#print axioms fix_remove_present
#print axioms nextWorkday_spec
#print axioms nextWorkday_zero
end Model
