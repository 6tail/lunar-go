/-
FnSCongr — "table-driven attributes are functions of their defining inputs", stated DIRECTLY on the
generated string-mode code `Gen.FnS`, guard-free: two `Gen.FnS.Lunar` (resp. `Gen.FnS.EightChar`)
values that agree on the named fields yield the SAME `Except Err String` result of the accessor
(including panics).  Every proof unfolds the accessor one level and rewrites: with the field equalities
where it reads fields, with the congruence of the accessor it calls where it calls one (the pillar strings
are `sd_pillar` of two fields).  If an accessor read any field not named in the hypotheses the rewrite would
leave `l.f` vs `l'.f` and the proof would fail — so each theorem bounds the read set from ABOVE.  That no
hypothesis is superfluous is not a theorem here: it rests on each proof failing when one is dropped.
The one helper carries the prefix `sc_`.
-/
import Proofs.FnSDecoders
namespace FnSEq
open Gen.Fn (Err)

theorem lunarGetDayPositionXi_congr (l l' : Gen.FnS.Lunar) (h1 : l.dayGanIndex = l'.dayGanIndex) :
    Gen.FnS.calendar_Lunar_GetDayPositionXi l = Gen.FnS.calendar_Lunar_GetDayPositionXi l' := by
  simp only [Gen.FnS.calendar_Lunar_GetDayPositionXi, h1]

theorem lunarGetDayPositionXiDesc_congr (l l' : Gen.FnS.Lunar) (h1 : l.dayGanIndex = l'.dayGanIndex) :
    Gen.FnS.calendar_Lunar_GetDayPositionXiDesc l = Gen.FnS.calendar_Lunar_GetDayPositionXiDesc l' := by
  simp only [Gen.FnS.calendar_Lunar_GetDayPositionXiDesc, lunarGetDayPositionXi_congr l l' h1]

theorem lunarGetDayPositionYangGui_congr (l l' : Gen.FnS.Lunar) (h1 : l.dayGanIndex = l'.dayGanIndex) :
    Gen.FnS.calendar_Lunar_GetDayPositionYangGui l = Gen.FnS.calendar_Lunar_GetDayPositionYangGui l' := by
  simp only [Gen.FnS.calendar_Lunar_GetDayPositionYangGui, h1]

theorem lunarGetDayPositionYangGuiDesc_congr (l l' : Gen.FnS.Lunar) (h1 : l.dayGanIndex = l'.dayGanIndex) :
    Gen.FnS.calendar_Lunar_GetDayPositionYangGuiDesc l = Gen.FnS.calendar_Lunar_GetDayPositionYangGuiDesc l' := by
  simp only [Gen.FnS.calendar_Lunar_GetDayPositionYangGuiDesc, lunarGetDayPositionYangGui_congr l l' h1]

theorem lunarGetDayPositionYinGui_congr (l l' : Gen.FnS.Lunar) (h1 : l.dayGanIndex = l'.dayGanIndex) :
    Gen.FnS.calendar_Lunar_GetDayPositionYinGui l = Gen.FnS.calendar_Lunar_GetDayPositionYinGui l' := by
  simp only [Gen.FnS.calendar_Lunar_GetDayPositionYinGui, h1]

theorem lunarGetDayPositionYinGuiDesc_congr (l l' : Gen.FnS.Lunar) (h1 : l.dayGanIndex = l'.dayGanIndex) :
    Gen.FnS.calendar_Lunar_GetDayPositionYinGuiDesc l = Gen.FnS.calendar_Lunar_GetDayPositionYinGuiDesc l' := by
  simp only [Gen.FnS.calendar_Lunar_GetDayPositionYinGuiDesc, lunarGetDayPositionYinGui_congr l l' h1]

theorem lunarGetDayPositionFu_congr (l l' : Gen.FnS.Lunar) (h1 : l.dayGanIndex = l'.dayGanIndex) :
    Gen.FnS.calendar_Lunar_GetDayPositionFu l = Gen.FnS.calendar_Lunar_GetDayPositionFu l' := by
  simp only [Gen.FnS.calendar_Lunar_GetDayPositionFu, Gen.FnS.calendar_Lunar_GetDayPositionFuBySect, h1]

theorem lunarGetDayPositionFuDesc_congr (l l' : Gen.FnS.Lunar) (h1 : l.dayGanIndex = l'.dayGanIndex) :
    Gen.FnS.calendar_Lunar_GetDayPositionFuDesc l = Gen.FnS.calendar_Lunar_GetDayPositionFuDesc l' := by
  simp only [Gen.FnS.calendar_Lunar_GetDayPositionFuDesc, Gen.FnS.calendar_Lunar_GetDayPositionFuDescBySect, Gen.FnS.calendar_Lunar_GetDayPositionFuBySect, h1]

theorem lunarGetDayPositionCai_congr (l l' : Gen.FnS.Lunar) (h1 : l.dayGanIndex = l'.dayGanIndex) :
    Gen.FnS.calendar_Lunar_GetDayPositionCai l = Gen.FnS.calendar_Lunar_GetDayPositionCai l' := by
  simp only [Gen.FnS.calendar_Lunar_GetDayPositionCai, h1]

theorem lunarGetDayPositionCaiDesc_congr (l l' : Gen.FnS.Lunar) (h1 : l.dayGanIndex = l'.dayGanIndex) :
    Gen.FnS.calendar_Lunar_GetDayPositionCaiDesc l = Gen.FnS.calendar_Lunar_GetDayPositionCaiDesc l' := by
  simp only [Gen.FnS.calendar_Lunar_GetDayPositionCaiDesc, lunarGetDayPositionCai_congr l l' h1]

theorem lunarGetPengZuGan_congr (l l' : Gen.FnS.Lunar) (h1 : l.dayGanIndex = l'.dayGanIndex) :
    Gen.FnS.calendar_Lunar_GetPengZuGan l = Gen.FnS.calendar_Lunar_GetPengZuGan l' := by
  simp only [Gen.FnS.calendar_Lunar_GetPengZuGan, h1]

theorem lunarGetDayChongGan_congr (l l' : Gen.FnS.Lunar) (h1 : l.dayGanIndex = l'.dayGanIndex) :
    Gen.FnS.calendar_Lunar_GetDayChongGan l = Gen.FnS.calendar_Lunar_GetDayChongGan l' := by
  simp only [Gen.FnS.calendar_Lunar_GetDayChongGan, h1]

theorem lunarGetDayChongGanTie_congr (l l' : Gen.FnS.Lunar) (h1 : l.dayGanIndex = l'.dayGanIndex) :
    Gen.FnS.calendar_Lunar_GetDayChongGanTie l = Gen.FnS.calendar_Lunar_GetDayChongGanTie l' := by
  simp only [Gen.FnS.calendar_Lunar_GetDayChongGanTie, h1]

theorem lunarGetPengZuZhi_congr (l l' : Gen.FnS.Lunar) (h1 : l.dayZhiIndex = l'.dayZhiIndex) :
    Gen.FnS.calendar_Lunar_GetPengZuZhi l = Gen.FnS.calendar_Lunar_GetPengZuZhi l' := by
  simp only [Gen.FnS.calendar_Lunar_GetPengZuZhi, h1]

theorem lunarGetDayChong_congr (l l' : Gen.FnS.Lunar) (h1 : l.dayZhiIndex = l'.dayZhiIndex) :
    Gen.FnS.calendar_Lunar_GetDayChong l = Gen.FnS.calendar_Lunar_GetDayChong l' := by
  simp only [Gen.FnS.calendar_Lunar_GetDayChong, h1]

theorem lunarGetDayChongShengXiao_congr (l l' : Gen.FnS.Lunar) (h1 : l.dayZhiIndex = l'.dayZhiIndex) :
    Gen.FnS.calendar_Lunar_GetDayChongShengXiao l = Gen.FnS.calendar_Lunar_GetDayChongShengXiao l' := by
  simp only [Gen.FnS.calendar_Lunar_GetDayChongShengXiao, lunarGetDayChong_congr l l' h1]

theorem lunarGetDaySha_congr (l l' : Gen.FnS.Lunar) (h1 : l.dayZhiIndex = l'.dayZhiIndex) :
    Gen.FnS.calendar_Lunar_GetDaySha l = Gen.FnS.calendar_Lunar_GetDaySha l' := by
  simp only [Gen.FnS.calendar_Lunar_GetDaySha, Gen.FnS.calendar_Lunar_GetDayZhi, h1]

theorem lunarGetDayShengXiao_congr (l l' : Gen.FnS.Lunar) (h1 : l.dayZhiIndex = l'.dayZhiIndex) :
    Gen.FnS.calendar_Lunar_GetDayShengXiao l = Gen.FnS.calendar_Lunar_GetDayShengXiao l' := by
  simp only [Gen.FnS.calendar_Lunar_GetDayShengXiao, h1]

theorem lunarGetDayChongDesc_congr (l l' : Gen.FnS.Lunar) (h1 : l.dayGanIndex = l'.dayGanIndex) (h2 : l.dayZhiIndex = l'.dayZhiIndex) :
    Gen.FnS.calendar_Lunar_GetDayChongDesc l = Gen.FnS.calendar_Lunar_GetDayChongDesc l' := by
  simp only [Gen.FnS.calendar_Lunar_GetDayChongDesc, lunarGetDayChongGan_congr l l' h1, lunarGetDayChong_congr l l' h2, lunarGetDayChongShengXiao_congr l l' h2]

theorem lunarGetDayNaYin_congr (l l' : Gen.FnS.Lunar) (h1 : l.dayGanIndex = l'.dayGanIndex) (h2 : l.dayZhiIndex = l'.dayZhiIndex) :
    Gen.FnS.calendar_Lunar_GetDayNaYin l = Gen.FnS.calendar_Lunar_GetDayNaYin l' := by
  simp only [Gen.FnS.calendar_Lunar_GetDayNaYin, sd_dayInGanZhi, h1, h2]

theorem lunarGetDayPositionTai_congr (l l' : Gen.FnS.Lunar) (h1 : l.dayGanIndex = l'.dayGanIndex) (h2 : l.dayZhiIndex = l'.dayZhiIndex) :
    Gen.FnS.calendar_Lunar_GetDayPositionTai l = Gen.FnS.calendar_Lunar_GetDayPositionTai l' := by
  simp only [Gen.FnS.calendar_Lunar_GetDayPositionTai, sd_dayInGanZhi, h1, h2]

theorem lunarGetDayLu_congr (l l' : Gen.FnS.Lunar) (h1 : l.dayGanIndex = l'.dayGanIndex) (h2 : l.dayZhiIndex = l'.dayZhiIndex) :
    Gen.FnS.calendar_Lunar_GetDayLu l = Gen.FnS.calendar_Lunar_GetDayLu l' := by
  simp only [Gen.FnS.calendar_Lunar_GetDayLu, Gen.FnS.calendar_Lunar_GetDayZhi, Gen.FnS.calendar_Lunar_GetDayGan, h1, h2]

theorem lunarGetDayXun_congr (l l' : Gen.FnS.Lunar) (h1 : l.dayGanIndex = l'.dayGanIndex) (h2 : l.dayZhiIndex = l'.dayZhiIndex) :
    Gen.FnS.calendar_Lunar_GetDayXun l = Gen.FnS.calendar_Lunar_GetDayXun l' := by
  simp only [Gen.FnS.calendar_Lunar_GetDayXun, sd_dayInGanZhi, h1, h2]

theorem lunarGetDayXunKong_congr (l l' : Gen.FnS.Lunar) (h1 : l.dayGanIndex = l'.dayGanIndex) (h2 : l.dayZhiIndex = l'.dayZhiIndex) :
    Gen.FnS.calendar_Lunar_GetDayXunKong l = Gen.FnS.calendar_Lunar_GetDayXunKong l' := by
  simp only [Gen.FnS.calendar_Lunar_GetDayXunKong, sd_dayInGanZhi, h1, h2]

theorem lunarGetZhiXing_congr (l l' : Gen.FnS.Lunar) (h1 : l.monthZhiIndex = l'.monthZhiIndex) (h2 : l.dayZhiIndex = l'.dayZhiIndex) :
    Gen.FnS.calendar_Lunar_GetZhiXing l = Gen.FnS.calendar_Lunar_GetZhiXing l' := by
  simp only [Gen.FnS.calendar_Lunar_GetZhiXing, h1, h2]

theorem lunarGetDayTianShen_congr (l l' : Gen.FnS.Lunar) (h1 : l.monthZhiIndex = l'.monthZhiIndex) (h2 : l.dayZhiIndex = l'.dayZhiIndex) :
    Gen.FnS.calendar_Lunar_GetDayTianShen l = Gen.FnS.calendar_Lunar_GetDayTianShen l' := by
  simp only [Gen.FnS.calendar_Lunar_GetDayTianShen, Gen.FnS.calendar_Lunar_GetMonthZhi, h1, h2]

theorem lunarGetDayTianShenType_congr (l l' : Gen.FnS.Lunar) (h1 : l.monthZhiIndex = l'.monthZhiIndex) (h2 : l.dayZhiIndex = l'.dayZhiIndex) :
    Gen.FnS.calendar_Lunar_GetDayTianShenType l = Gen.FnS.calendar_Lunar_GetDayTianShenType l' := by
  simp only [Gen.FnS.calendar_Lunar_GetDayTianShenType, lunarGetDayTianShen_congr l l' h1 h2]

theorem lunarGetDayTianShenLuck_congr (l l' : Gen.FnS.Lunar) (h1 : l.monthZhiIndex = l'.monthZhiIndex) (h2 : l.dayZhiIndex = l'.dayZhiIndex) :
    Gen.FnS.calendar_Lunar_GetDayTianShenLuck l = Gen.FnS.calendar_Lunar_GetDayTianShenLuck l' := by
  simp only [Gen.FnS.calendar_Lunar_GetDayTianShenLuck, lunarGetDayTianShenType_congr l l' h1 h2]

theorem lunarGetXiu_congr (l l' : Gen.FnS.Lunar) (h1 : l.dayZhiIndex = l'.dayZhiIndex) (h2 : l.weekIndex = l'.weekIndex) :
    Gen.FnS.calendar_Lunar_GetXiu l = Gen.FnS.calendar_Lunar_GetXiu l' := by
  simp only [Gen.FnS.calendar_Lunar_GetXiu, Gen.FnS.calendar_Lunar_GetWeek, Gen.FnS.calendar_Lunar_GetDayZhi, h1, h2]

theorem lunarGetXiuLuck_congr (l l' : Gen.FnS.Lunar) (h1 : l.dayZhiIndex = l'.dayZhiIndex) (h2 : l.weekIndex = l'.weekIndex) :
    Gen.FnS.calendar_Lunar_GetXiuLuck l = Gen.FnS.calendar_Lunar_GetXiuLuck l' := by
  simp only [Gen.FnS.calendar_Lunar_GetXiuLuck, lunarGetXiu_congr l l' h1 h2]

theorem lunarGetXiuSong_congr (l l' : Gen.FnS.Lunar) (h1 : l.dayZhiIndex = l'.dayZhiIndex) (h2 : l.weekIndex = l'.weekIndex) :
    Gen.FnS.calendar_Lunar_GetXiuSong l = Gen.FnS.calendar_Lunar_GetXiuSong l' := by
  simp only [Gen.FnS.calendar_Lunar_GetXiuSong, lunarGetXiu_congr l l' h1 h2]

theorem lunarGetZheng_congr (l l' : Gen.FnS.Lunar) (h1 : l.dayZhiIndex = l'.dayZhiIndex) (h2 : l.weekIndex = l'.weekIndex) :
    Gen.FnS.calendar_Lunar_GetZheng l = Gen.FnS.calendar_Lunar_GetZheng l' := by
  simp only [Gen.FnS.calendar_Lunar_GetZheng, lunarGetXiu_congr l l' h1 h2]

theorem lunarGetAnimal_congr (l l' : Gen.FnS.Lunar) (h1 : l.dayZhiIndex = l'.dayZhiIndex) (h2 : l.weekIndex = l'.weekIndex) :
    Gen.FnS.calendar_Lunar_GetAnimal l = Gen.FnS.calendar_Lunar_GetAnimal l' := by
  simp only [Gen.FnS.calendar_Lunar_GetAnimal, lunarGetXiu_congr l l' h1 h2]

theorem lunarGetGong_congr (l l' : Gen.FnS.Lunar) (h1 : l.dayZhiIndex = l'.dayZhiIndex) (h2 : l.weekIndex = l'.weekIndex) :
    Gen.FnS.calendar_Lunar_GetGong l = Gen.FnS.calendar_Lunar_GetGong l' := by
  simp only [Gen.FnS.calendar_Lunar_GetGong, lunarGetXiu_congr l l' h1 h2]

theorem lunarGetShou_congr (l l' : Gen.FnS.Lunar) (h1 : l.dayZhiIndex = l'.dayZhiIndex) (h2 : l.weekIndex = l'.weekIndex) :
    Gen.FnS.calendar_Lunar_GetShou l = Gen.FnS.calendar_Lunar_GetShou l' := by
  simp only [Gen.FnS.calendar_Lunar_GetShou, lunarGetGong_congr l l' h1 h2]

theorem lunarGetLiuYao_congr (l l' : Gen.FnS.Lunar) (h1 : l.month = l'.month) (h2 : l.day = l'.day) :
    Gen.FnS.calendar_Lunar_GetLiuYao l = Gen.FnS.calendar_Lunar_GetLiuYao l' := by
  simp only [Gen.FnS.calendar_Lunar_GetLiuYao, h1, h2]

theorem lunarGetYueXiang_congr (l l' : Gen.FnS.Lunar) (h1 : l.day = l'.day) :
    Gen.FnS.calendar_Lunar_GetYueXiang l = Gen.FnS.calendar_Lunar_GetYueXiang l' := by
  simp only [Gen.FnS.calendar_Lunar_GetYueXiang, h1]

theorem lunarGetSeason_congr (l l' : Gen.FnS.Lunar) (h1 : l.month = l'.month) :
    Gen.FnS.calendar_Lunar_GetSeason l = Gen.FnS.calendar_Lunar_GetSeason l' := by
  simp only [Gen.FnS.calendar_Lunar_GetSeason, h1]

theorem lunarGetMonthPositionTai_congr (l l' : Gen.FnS.Lunar) (h1 : l.month = l'.month) :
    Gen.FnS.calendar_Lunar_GetMonthPositionTai l = Gen.FnS.calendar_Lunar_GetMonthPositionTai l' := by
  simp only [Gen.FnS.calendar_Lunar_GetMonthPositionTai, h1]

theorem lunarGetTimePositionXi_congr (l l' : Gen.FnS.Lunar) (h1 : l.timeGanIndex = l'.timeGanIndex) :
    Gen.FnS.calendar_Lunar_GetTimePositionXi l = Gen.FnS.calendar_Lunar_GetTimePositionXi l' := by
  simp only [Gen.FnS.calendar_Lunar_GetTimePositionXi, h1]

theorem lunarGetTimePositionYangGui_congr (l l' : Gen.FnS.Lunar) (h1 : l.timeGanIndex = l'.timeGanIndex) :
    Gen.FnS.calendar_Lunar_GetTimePositionYangGui l = Gen.FnS.calendar_Lunar_GetTimePositionYangGui l' := by
  simp only [Gen.FnS.calendar_Lunar_GetTimePositionYangGui, h1]

theorem lunarGetTimePositionYinGui_congr (l l' : Gen.FnS.Lunar) (h1 : l.timeGanIndex = l'.timeGanIndex) :
    Gen.FnS.calendar_Lunar_GetTimePositionYinGui l = Gen.FnS.calendar_Lunar_GetTimePositionYinGui l' := by
  simp only [Gen.FnS.calendar_Lunar_GetTimePositionYinGui, h1]

theorem lunarGetTimePositionFu_congr (l l' : Gen.FnS.Lunar) (h1 : l.timeGanIndex = l'.timeGanIndex) :
    Gen.FnS.calendar_Lunar_GetTimePositionFu l = Gen.FnS.calendar_Lunar_GetTimePositionFu l' := by
  simp only [Gen.FnS.calendar_Lunar_GetTimePositionFu, h1]

theorem lunarGetTimePositionCai_congr (l l' : Gen.FnS.Lunar) (h1 : l.timeGanIndex = l'.timeGanIndex) :
    Gen.FnS.calendar_Lunar_GetTimePositionCai l = Gen.FnS.calendar_Lunar_GetTimePositionCai l' := by
  simp only [Gen.FnS.calendar_Lunar_GetTimePositionCai, h1]

theorem lunarGetTimeChongGan_congr (l l' : Gen.FnS.Lunar) (h1 : l.timeGanIndex = l'.timeGanIndex) :
    Gen.FnS.calendar_Lunar_GetTimeChongGan l = Gen.FnS.calendar_Lunar_GetTimeChongGan l' := by
  simp only [Gen.FnS.calendar_Lunar_GetTimeChongGan, h1]

theorem lunarGetTimeChongGanTie_congr (l l' : Gen.FnS.Lunar) (h1 : l.timeGanIndex = l'.timeGanIndex) :
    Gen.FnS.calendar_Lunar_GetTimeChongGanTie l = Gen.FnS.calendar_Lunar_GetTimeChongGanTie l' := by
  simp only [Gen.FnS.calendar_Lunar_GetTimeChongGanTie, h1]

theorem lunarGetTimeChong_congr (l l' : Gen.FnS.Lunar) (h1 : l.timeZhiIndex = l'.timeZhiIndex) :
    Gen.FnS.calendar_Lunar_GetTimeChong l = Gen.FnS.calendar_Lunar_GetTimeChong l' := by
  simp only [Gen.FnS.calendar_Lunar_GetTimeChong, h1]

theorem lunarGetTimeChongShengXiao_congr (l l' : Gen.FnS.Lunar) (h1 : l.timeZhiIndex = l'.timeZhiIndex) :
    Gen.FnS.calendar_Lunar_GetTimeChongShengXiao l = Gen.FnS.calendar_Lunar_GetTimeChongShengXiao l' := by
  simp only [Gen.FnS.calendar_Lunar_GetTimeChongShengXiao, lunarGetTimeChong_congr l l' h1]

theorem lunarGetTimeSha_congr (l l' : Gen.FnS.Lunar) (h1 : l.timeZhiIndex = l'.timeZhiIndex) :
    Gen.FnS.calendar_Lunar_GetTimeSha l = Gen.FnS.calendar_Lunar_GetTimeSha l' := by
  simp only [Gen.FnS.calendar_Lunar_GetTimeSha, Gen.FnS.calendar_Lunar_GetTimeZhi, h1]

theorem lunarGetTimeChongDesc_congr (l l' : Gen.FnS.Lunar) (h1 : l.timeGanIndex = l'.timeGanIndex) (h2 : l.timeZhiIndex = l'.timeZhiIndex) :
    Gen.FnS.calendar_Lunar_GetTimeChongDesc l = Gen.FnS.calendar_Lunar_GetTimeChongDesc l' := by
  simp only [Gen.FnS.calendar_Lunar_GetTimeChongDesc, lunarGetTimeChongGan_congr l l' h1, lunarGetTimeChong_congr l l' h2, lunarGetTimeChongShengXiao_congr l l' h2]

theorem lunarGetTimeNaYin_congr (l l' : Gen.FnS.Lunar) (h1 : l.timeGanIndex = l'.timeGanIndex) (h2 : l.timeZhiIndex = l'.timeZhiIndex) :
    Gen.FnS.calendar_Lunar_GetTimeNaYin l = Gen.FnS.calendar_Lunar_GetTimeNaYin l' := by
  simp only [Gen.FnS.calendar_Lunar_GetTimeNaYin, sd_timeInGanZhi, h1, h2]

theorem lunarGetTimeXun_congr (l l' : Gen.FnS.Lunar) (h1 : l.timeGanIndex = l'.timeGanIndex) (h2 : l.timeZhiIndex = l'.timeZhiIndex) :
    Gen.FnS.calendar_Lunar_GetTimeXun l = Gen.FnS.calendar_Lunar_GetTimeXun l' := by
  simp only [Gen.FnS.calendar_Lunar_GetTimeXun, sd_timeInGanZhi, h1, h2]

theorem lunarGetTimeXunKong_congr (l l' : Gen.FnS.Lunar) (h1 : l.timeGanIndex = l'.timeGanIndex) (h2 : l.timeZhiIndex = l'.timeZhiIndex) :
    Gen.FnS.calendar_Lunar_GetTimeXunKong l = Gen.FnS.calendar_Lunar_GetTimeXunKong l' := by
  simp only [Gen.FnS.calendar_Lunar_GetTimeXunKong, sd_timeInGanZhi, h1, h2]

theorem lunarGetTimeTianShen_congr (l l' : Gen.FnS.Lunar) (h1 : l.timeZhiIndex = l'.timeZhiIndex) (h2 : l.dayZhiIndexExact = l'.dayZhiIndexExact) :
    Gen.FnS.calendar_Lunar_GetTimeTianShen l = Gen.FnS.calendar_Lunar_GetTimeTianShen l' := by
  simp only [Gen.FnS.calendar_Lunar_GetTimeTianShen, Gen.FnS.calendar_Lunar_GetDayZhiExact, h1, h2]

theorem lunarGetTimeTianShenType_congr (l l' : Gen.FnS.Lunar) (h1 : l.timeZhiIndex = l'.timeZhiIndex) (h2 : l.dayZhiIndexExact = l'.dayZhiIndexExact) :
    Gen.FnS.calendar_Lunar_GetTimeTianShenType l = Gen.FnS.calendar_Lunar_GetTimeTianShenType l' := by
  simp only [Gen.FnS.calendar_Lunar_GetTimeTianShenType, lunarGetTimeTianShen_congr l l' h1 h2]

theorem lunarGetTimeTianShenLuck_congr (l l' : Gen.FnS.Lunar) (h1 : l.timeZhiIndex = l'.timeZhiIndex) (h2 : l.dayZhiIndexExact = l'.dayZhiIndexExact) :
    Gen.FnS.calendar_Lunar_GetTimeTianShenLuck l = Gen.FnS.calendar_Lunar_GetTimeTianShenLuck l' := by
  simp only [Gen.FnS.calendar_Lunar_GetTimeTianShenLuck, lunarGetTimeTianShenType_congr l l' h1 h2]

theorem lunarGetYearNaYin_congr (l l' : Gen.FnS.Lunar) (h1 : l.yearGanIndex = l'.yearGanIndex) (h2 : l.yearZhiIndex = l'.yearZhiIndex) :
    Gen.FnS.calendar_Lunar_GetYearNaYin l = Gen.FnS.calendar_Lunar_GetYearNaYin l' := by
  simp only [Gen.FnS.calendar_Lunar_GetYearNaYin, sd_yearInGanZhi, h1, h2]

theorem lunarGetYearXun_congr (l l' : Gen.FnS.Lunar) (h1 : l.yearGanIndex = l'.yearGanIndex) (h2 : l.yearZhiIndex = l'.yearZhiIndex) :
    Gen.FnS.calendar_Lunar_GetYearXun l = Gen.FnS.calendar_Lunar_GetYearXun l' := by
  simp only [Gen.FnS.calendar_Lunar_GetYearXun, sd_yearInGanZhi, h1, h2]

theorem lunarGetYearXunKong_congr (l l' : Gen.FnS.Lunar) (h1 : l.yearGanIndex = l'.yearGanIndex) (h2 : l.yearZhiIndex = l'.yearZhiIndex) :
    Gen.FnS.calendar_Lunar_GetYearXunKong l = Gen.FnS.calendar_Lunar_GetYearXunKong l' := by
  simp only [Gen.FnS.calendar_Lunar_GetYearXunKong, sd_yearInGanZhi, h1, h2]

theorem lunarGetYearShengXiao_congr (l l' : Gen.FnS.Lunar) (h1 : l.yearZhiIndex = l'.yearZhiIndex) :
    Gen.FnS.calendar_Lunar_GetYearShengXiao l = Gen.FnS.calendar_Lunar_GetYearShengXiao l' := by
  simp only [Gen.FnS.calendar_Lunar_GetYearShengXiao, h1]

theorem lunarGetYearShengXiaoByLiChun_congr (l l' : Gen.FnS.Lunar) (h1 : l.yearZhiIndexByLiChun = l'.yearZhiIndexByLiChun) :
    Gen.FnS.calendar_Lunar_GetYearShengXiaoByLiChun l = Gen.FnS.calendar_Lunar_GetYearShengXiaoByLiChun l' := by
  simp only [Gen.FnS.calendar_Lunar_GetYearShengXiaoByLiChun, h1]

theorem lunarGetYearShengXiaoExact_congr (l l' : Gen.FnS.Lunar) (h1 : l.yearZhiIndexExact = l'.yearZhiIndexExact) :
    Gen.FnS.calendar_Lunar_GetYearShengXiaoExact l = Gen.FnS.calendar_Lunar_GetYearShengXiaoExact l' := by
  simp only [Gen.FnS.calendar_Lunar_GetYearShengXiaoExact, h1]

theorem lunarGetYearXunByLiChun_congr (l l' : Gen.FnS.Lunar) (h1 : l.yearGanIndexByLiChun = l'.yearGanIndexByLiChun) (h2 : l.yearZhiIndexByLiChun = l'.yearZhiIndexByLiChun) :
    Gen.FnS.calendar_Lunar_GetYearXunByLiChun l = Gen.FnS.calendar_Lunar_GetYearXunByLiChun l' := by
  simp only [Gen.FnS.calendar_Lunar_GetYearXunByLiChun, sd_yearInGanZhiByLiChun, h1, h2]

theorem lunarGetYearXunKongByLiChun_congr (l l' : Gen.FnS.Lunar) (h1 : l.yearGanIndexByLiChun = l'.yearGanIndexByLiChun) (h2 : l.yearZhiIndexByLiChun = l'.yearZhiIndexByLiChun) :
    Gen.FnS.calendar_Lunar_GetYearXunKongByLiChun l = Gen.FnS.calendar_Lunar_GetYearXunKongByLiChun l' := by
  simp only [Gen.FnS.calendar_Lunar_GetYearXunKongByLiChun, sd_yearInGanZhiByLiChun, h1, h2]

theorem lunarGetYearXunExact_congr (l l' : Gen.FnS.Lunar) (h1 : l.yearGanIndexExact = l'.yearGanIndexExact) (h2 : l.yearZhiIndexExact = l'.yearZhiIndexExact) :
    Gen.FnS.calendar_Lunar_GetYearXunExact l = Gen.FnS.calendar_Lunar_GetYearXunExact l' := by
  simp only [Gen.FnS.calendar_Lunar_GetYearXunExact, sd_yearInGanZhiExact, h1, h2]

theorem lunarGetYearXunKongExact_congr (l l' : Gen.FnS.Lunar) (h1 : l.yearGanIndexExact = l'.yearGanIndexExact) (h2 : l.yearZhiIndexExact = l'.yearZhiIndexExact) :
    Gen.FnS.calendar_Lunar_GetYearXunKongExact l = Gen.FnS.calendar_Lunar_GetYearXunKongExact l' := by
  simp only [Gen.FnS.calendar_Lunar_GetYearXunKongExact, sd_yearInGanZhiExact, h1, h2]

theorem lunarGetMonthNaYin_congr (l l' : Gen.FnS.Lunar) (h1 : l.monthGanIndex = l'.monthGanIndex) (h2 : l.monthZhiIndex = l'.monthZhiIndex) :
    Gen.FnS.calendar_Lunar_GetMonthNaYin l = Gen.FnS.calendar_Lunar_GetMonthNaYin l' := by
  simp only [Gen.FnS.calendar_Lunar_GetMonthNaYin, sd_monthInGanZhi, h1, h2]

theorem lunarGetMonthXun_congr (l l' : Gen.FnS.Lunar) (h1 : l.monthGanIndex = l'.monthGanIndex) (h2 : l.monthZhiIndex = l'.monthZhiIndex) :
    Gen.FnS.calendar_Lunar_GetMonthXun l = Gen.FnS.calendar_Lunar_GetMonthXun l' := by
  simp only [Gen.FnS.calendar_Lunar_GetMonthXun, sd_monthInGanZhi, h1, h2]

theorem lunarGetMonthXunKong_congr (l l' : Gen.FnS.Lunar) (h1 : l.monthGanIndex = l'.monthGanIndex) (h2 : l.monthZhiIndex = l'.monthZhiIndex) :
    Gen.FnS.calendar_Lunar_GetMonthXunKong l = Gen.FnS.calendar_Lunar_GetMonthXunKong l' := by
  simp only [Gen.FnS.calendar_Lunar_GetMonthXunKong, sd_monthInGanZhi, h1, h2]

theorem lunarGetMonthXunExact_congr (l l' : Gen.FnS.Lunar) (h1 : l.monthGanIndexExact = l'.monthGanIndexExact) (h2 : l.monthZhiIndexExact = l'.monthZhiIndexExact) :
    Gen.FnS.calendar_Lunar_GetMonthXunExact l = Gen.FnS.calendar_Lunar_GetMonthXunExact l' := by
  simp only [Gen.FnS.calendar_Lunar_GetMonthXunExact, sd_monthInGanZhiExact, h1, h2]

theorem lunarGetMonthXunKongExact_congr (l l' : Gen.FnS.Lunar) (h1 : l.monthGanIndexExact = l'.monthGanIndexExact) (h2 : l.monthZhiIndexExact = l'.monthZhiIndexExact) :
    Gen.FnS.calendar_Lunar_GetMonthXunKongExact l = Gen.FnS.calendar_Lunar_GetMonthXunKongExact l' := by
  simp only [Gen.FnS.calendar_Lunar_GetMonthXunKongExact, sd_monthInGanZhiExact, h1, h2]

theorem lunarGetMonthShengXiao_congr (l l' : Gen.FnS.Lunar) (h1 : l.monthZhiIndex = l'.monthZhiIndex) :
    Gen.FnS.calendar_Lunar_GetMonthShengXiao l = Gen.FnS.calendar_Lunar_GetMonthShengXiao l' := by
  simp only [Gen.FnS.calendar_Lunar_GetMonthShengXiao, h1]

/-- `getDiShi` reads the object only through the day stem, which `sect` selects among the two exact ones -/
theorem sc_getDiShi_congr (e e' : Gen.FnS.EightChar) (hs : e.sect = e'.sect)
    (h1 : e.lunar.dayGanIndexExact = e'.lunar.dayGanIndexExact) (h2 : e.lunar.dayGanIndexExact2 = e'.lunar.dayGanIndexExact2)
    (z : Int) : Gen.FnS.calendar_EightChar_getDiShi e z = Gen.FnS.calendar_EightChar_getDiShi e' z := by
  simp only [Gen.FnS.calendar_EightChar_getDiShi, Gen.FnS.calendar_EightChar_GetDayGanIndex,
    Gen.FnS.calendar_Lunar_GetDayGanIndexExact, Gen.FnS.calendar_Lunar_GetDayGanIndexExact2,
    Gen.FnS.calendar_EightChar_GetDayGan, Gen.FnS.calendar_Lunar_GetDayGanExact, Gen.FnS.calendar_Lunar_GetDayGanExact2,
    hs, h1, h2]

theorem eightCharGetDayDiShi_congr (e e' : Gen.FnS.EightChar) (hs : e.sect = e'.sect) (h1 : e.lunar.dayGanIndexExact = e'.lunar.dayGanIndexExact) (h2 : e.lunar.dayGanIndexExact2 = e'.lunar.dayGanIndexExact2) (h3 : e.lunar.dayZhiIndexExact = e'.lunar.dayZhiIndexExact) (h4 : e.lunar.dayZhiIndexExact2 = e'.lunar.dayZhiIndexExact2) :
    Gen.FnS.calendar_EightChar_GetDayDiShi e = Gen.FnS.calendar_EightChar_GetDayDiShi e' := by
  simp only [Gen.FnS.calendar_EightChar_GetDayDiShi, sc_getDiShi_congr e e' hs h1 h2, Gen.FnS.calendar_EightChar_GetDayZhiIndex, Gen.FnS.calendar_Lunar_GetDayZhiIndexExact, Gen.FnS.calendar_Lunar_GetDayZhiIndexExact2, hs, h3, h4]

theorem eightCharGetYearDiShi_congr (e e' : Gen.FnS.EightChar) (hs : e.sect = e'.sect) (h1 : e.lunar.dayGanIndexExact = e'.lunar.dayGanIndexExact) (h2 : e.lunar.dayGanIndexExact2 = e'.lunar.dayGanIndexExact2) (h3 : e.lunar.yearZhiIndexExact = e'.lunar.yearZhiIndexExact) :
    Gen.FnS.calendar_EightChar_GetYearDiShi e = Gen.FnS.calendar_EightChar_GetYearDiShi e' := by
  simp only [Gen.FnS.calendar_EightChar_GetYearDiShi, sc_getDiShi_congr e e' hs h1 h2, Gen.FnS.calendar_Lunar_GetYearZhiIndexExact, h3]

theorem eightCharGetMonthDiShi_congr (e e' : Gen.FnS.EightChar) (hs : e.sect = e'.sect) (h1 : e.lunar.dayGanIndexExact = e'.lunar.dayGanIndexExact) (h2 : e.lunar.dayGanIndexExact2 = e'.lunar.dayGanIndexExact2) (h3 : e.lunar.monthZhiIndexExact = e'.lunar.monthZhiIndexExact) :
    Gen.FnS.calendar_EightChar_GetMonthDiShi e = Gen.FnS.calendar_EightChar_GetMonthDiShi e' := by
  simp only [Gen.FnS.calendar_EightChar_GetMonthDiShi, sc_getDiShi_congr e e' hs h1 h2, Gen.FnS.calendar_Lunar_GetMonthZhiIndexExact, h3]

theorem eightCharGetTimeDiShi_congr (e e' : Gen.FnS.EightChar) (hs : e.sect = e'.sect) (h1 : e.lunar.dayGanIndexExact = e'.lunar.dayGanIndexExact) (h2 : e.lunar.dayGanIndexExact2 = e'.lunar.dayGanIndexExact2) (h3 : e.lunar.timeZhiIndex = e'.lunar.timeZhiIndex) :
    Gen.FnS.calendar_EightChar_GetTimeDiShi e = Gen.FnS.calendar_EightChar_GetTimeDiShi e' := by
  simp only [Gen.FnS.calendar_EightChar_GetTimeDiShi, sc_getDiShi_congr e e' hs h1 h2, Gen.FnS.calendar_Lunar_GetTimeZhiIndex, h3]

theorem eightCharGetDayWuXing_congr (e e' : Gen.FnS.EightChar) (hs : e.sect = e'.sect) (h1 : e.lunar.dayGanIndexExact = e'.lunar.dayGanIndexExact) (h2 : e.lunar.dayGanIndexExact2 = e'.lunar.dayGanIndexExact2) (h3 : e.lunar.dayZhiIndexExact = e'.lunar.dayZhiIndexExact) (h4 : e.lunar.dayZhiIndexExact2 = e'.lunar.dayZhiIndexExact2) :
    Gen.FnS.calendar_EightChar_GetDayWuXing e = Gen.FnS.calendar_EightChar_GetDayWuXing e' := by
  simp only [Gen.FnS.calendar_EightChar_GetDayWuXing, Gen.FnS.calendar_EightChar_GetDayZhi, Gen.FnS.calendar_Lunar_GetDayZhiExact, Gen.FnS.calendar_Lunar_GetDayZhiExact2, Gen.FnS.calendar_EightChar_GetDayGan, Gen.FnS.calendar_Lunar_GetDayGanExact, Gen.FnS.calendar_Lunar_GetDayGanExact2, hs, h1, h2, h3, h4]

theorem eightCharGetDayNaYin_congr (e e' : Gen.FnS.EightChar) (hs : e.sect = e'.sect) (h1 : e.lunar.dayGanIndexExact = e'.lunar.dayGanIndexExact) (h2 : e.lunar.dayGanIndexExact2 = e'.lunar.dayGanIndexExact2) (h3 : e.lunar.dayZhiIndexExact = e'.lunar.dayZhiIndexExact) (h4 : e.lunar.dayZhiIndexExact2 = e'.lunar.dayZhiIndexExact2) :
    Gen.FnS.calendar_EightChar_GetDayNaYin e = Gen.FnS.calendar_EightChar_GetDayNaYin e' := by
  simp only [Gen.FnS.calendar_EightChar_GetDayNaYin, Gen.FnS.calendar_EightChar_GetDay, sd_dayInGanZhiExact, sd_dayInGanZhiExact2, hs, h1, h2, h3, h4]
section AxiomAudit
#print axioms lunarGetDayPositionXi_congr
#print axioms lunarGetDayPositionXiDesc_congr
#print axioms lunarGetDayPositionYangGui_congr
#print axioms lunarGetDayPositionYangGuiDesc_congr
#print axioms lunarGetDayPositionYinGui_congr
#print axioms lunarGetDayPositionYinGuiDesc_congr
#print axioms lunarGetDayPositionFu_congr
#print axioms lunarGetDayPositionFuDesc_congr
#print axioms lunarGetDayPositionCai_congr
#print axioms lunarGetDayPositionCaiDesc_congr
#print axioms lunarGetPengZuGan_congr
#print axioms lunarGetDayChongGan_congr
#print axioms lunarGetDayChongGanTie_congr
#print axioms lunarGetPengZuZhi_congr
#print axioms lunarGetDayChong_congr
#print axioms lunarGetDayChongShengXiao_congr
#print axioms lunarGetDaySha_congr
#print axioms lunarGetDayShengXiao_congr
#print axioms lunarGetDayChongDesc_congr
#print axioms lunarGetDayNaYin_congr
#print axioms lunarGetDayPositionTai_congr
#print axioms lunarGetDayLu_congr
#print axioms lunarGetDayXun_congr
#print axioms lunarGetDayXunKong_congr
#print axioms lunarGetZhiXing_congr
#print axioms lunarGetDayTianShen_congr
#print axioms lunarGetDayTianShenType_congr
#print axioms lunarGetDayTianShenLuck_congr
#print axioms lunarGetXiu_congr
#print axioms lunarGetXiuLuck_congr
#print axioms lunarGetXiuSong_congr
#print axioms lunarGetZheng_congr
#print axioms lunarGetAnimal_congr
#print axioms lunarGetGong_congr
#print axioms lunarGetShou_congr
#print axioms lunarGetLiuYao_congr
#print axioms lunarGetYueXiang_congr
#print axioms lunarGetSeason_congr
#print axioms lunarGetMonthPositionTai_congr
#print axioms lunarGetTimePositionXi_congr
#print axioms lunarGetTimePositionYangGui_congr
#print axioms lunarGetTimePositionYinGui_congr
#print axioms lunarGetTimePositionFu_congr
#print axioms lunarGetTimePositionCai_congr
#print axioms lunarGetTimeChongGan_congr
#print axioms lunarGetTimeChongGanTie_congr
#print axioms lunarGetTimeChong_congr
#print axioms lunarGetTimeChongShengXiao_congr
#print axioms lunarGetTimeSha_congr
#print axioms lunarGetTimeChongDesc_congr
#print axioms lunarGetTimeNaYin_congr
#print axioms lunarGetTimeXun_congr
#print axioms lunarGetTimeXunKong_congr
#print axioms lunarGetTimeTianShen_congr
#print axioms lunarGetTimeTianShenType_congr
#print axioms lunarGetTimeTianShenLuck_congr
#print axioms lunarGetYearNaYin_congr
#print axioms lunarGetYearXun_congr
#print axioms lunarGetYearXunKong_congr
#print axioms lunarGetYearShengXiao_congr
#print axioms lunarGetYearShengXiaoByLiChun_congr
#print axioms lunarGetYearShengXiaoExact_congr
#print axioms lunarGetYearXunByLiChun_congr
#print axioms lunarGetYearXunKongByLiChun_congr
#print axioms lunarGetYearXunExact_congr
#print axioms lunarGetYearXunKongExact_congr
#print axioms lunarGetMonthNaYin_congr
#print axioms lunarGetMonthXun_congr
#print axioms lunarGetMonthXunKong_congr
#print axioms lunarGetMonthXunExact_congr
#print axioms lunarGetMonthXunKongExact_congr
#print axioms lunarGetMonthShengXiao_congr
#print axioms eightCharGetDayDiShi_congr
#print axioms eightCharGetYearDiShi_congr
#print axioms eightCharGetMonthDiShi_congr
#print axioms eightCharGetTimeDiShi_congr
#print axioms eightCharGetDayWuXing_congr
#print axioms eightCharGetDayNaYin_congr
end AxiomAudit

end FnSEq
