/-
Proofs.FnSeason — `Lunar.GetShuJiu` and `Lunar.GetFu`: generated code = model.  Both walk forward from a
solar term with `NextDay` and measure the receiver's day with `Subtract`; the proofs follow the calls in
order, each rewritten to the model's value and split on it.  The one arithmetic fact is that `Subtract`
is non-negative once `IsBefore` is excluded (Go's `%` truncates).
-/
import Proofs.FnMiscBase
import Proofs.CivilArith

namespace FnEq
open Gen.Fn

theorem mi_midnight_idem (a : Model.Solar) : Model.midnight (Model.midnight a) = Model.midnight a := rfl

theorem mi_midnight_valid (a : Model.Solar) (h : Model.validYmd a.year a.month a.day = true) :
    (Model.midnight a).valid = true := by
  show (Model.validYmd a.year a.month a.day && Model.validHms 0 0 0) = true
  rw [h]; rfl

theorem mi_midnight_sub_nonneg (a b : Model.Solar)
    (ha : Model.validYmd a.year a.month a.day = true) (hb : Model.validYmd b.year b.month b.day = true)
    (h : (Model.midnight b).isBefore (Model.midnight a) = false) :
    ∀ days, (Model.midnight b).subtract (Model.midnight a) = some days → 0 ≤ days := by
  -- `subtract` is the difference of day numbers, whose order is the lexicographic one on (y, m, d)
  intro days hd
  rw [Model.subtract_eq_any _ _ (mi_midnight_valid b hb) (mi_midnight_valid a ha)] at hd
  injection hd with hd
  subst hd
  show 0 ≤ Model.jdn b.year b.month b.day - Model.jdn a.year a.month a.day
  have hlex : ¬ c1_lex6 b.year b.month b.day 0 0 0 a.year a.month a.day 0 0 0 := fun hl => by
    rw [(c1_isBefore_iff (Model.midnight b) (Model.midnight a)).2 hl] at h; cases h
  by_cases e : a.year = b.year ∧ a.month = b.month ∧ a.day = b.day
  · rw [e.1, e.2.1, e.2.2]; omega
  · have := Model.lex_jdn_lt _ _ _ _ _ _ ha hb (by unfold c1_lex6 at hlex; omega)
    omega

theorem mi_subtract_ofM (x y : Model.Solar) (hx : x.valid = true) (hy : y.valid = true) :
    calendar_Solar_Subtract (ofM x) (ofM y) =
      match x.subtract y with | some r => .ok r | none => .error .panic :=
  solarSubtract_eq_of_valid (ofM x) (ofM y) hx hy

theorem mi_newSolarYmd_of_valid (y m d : Int) (h : Model.validYmd y m d = true) :
    Model.newSolarYmd y m d = some ⟨y, m, d, 0, 0, 0⟩ := by
  unfold Model.newSolarYmd Model.newSolar
  have : Model.validHms 0 0 0 = true := by decide
  simp [h, this]

theorem mi_newYmd_midnight (s : Gen.Fn.Solar) (h : Model.validYmd s.year s.month s.day = true) :
    Gen.Fn.calendar_NewSolarFromYmd s.year s.month s.day = .ok (ofM (Model.midnight (toM s))) := by
  rw [newSolarFromYmd_eq, mi_newSolarYmd_of_valid _ _ _ h]; rfl

theorem mi_newYmd_panic (s : Gen.Fn.Solar) (h : Model.validYmd s.year s.month s.day = false) :
    Gen.Fn.calendar_NewSolarFromYmd s.year s.month s.day = .error .panic := by
  rw [newSolarFromYmd_eq]; unfold Model.newSolarYmd Model.newSolar; simp [h]

/-- result of `GetShuJiu` from the model's answer (the name string is outside the subset):
`none` = panic, `some none` = not in the period, `some (some i)` = index `i` -/
def mi_sjRes (r : Option (Option Int)) : Except Gen.Fn.Err (Option Gen.Fn.ShuJiu) :=
  match r with
  | none => .error .panic
  | some none => .ok none
  | some (some i) => .ok (some ⟨i⟩)

/-- the `start` day `GetShuJiu` settles on -/
def mi_sjStart (cur a1 a2 : Model.Solar) : Model.Solar :=
  if (Model.midnight cur).isBefore (Model.midnight a1) then Model.midnight a2 else Model.midnight a1

/-- the choice of `start` at the head of `GetShuJiu`, for any continuation `k` -/
theorem mi_sj_start {β : Type} (b : Bool) (a2 : Gen.Fn.Solar) (s0 : Model.Solar)
    (k : Gen.Fn.Solar → Except Err β) (hv2 : b = true → Model.validYmd a2.year a2.month a2.day = true) :
    (if b = true then calendar_NewSolarFromYmd a2.year a2.month a2.day >>= k else k (ofM s0)) =
      k (ofM (if b = true then Model.midnight (toM a2) else s0)) := by
  split
  · rename_i hb; rw [mi_newYmd_midnight _ (hv2 hb)]; rfl
  · rfl

/-- `Lunar.GetShuJiu`.  Atoms: `a1` = `lunar.jieQi["DONG_ZHI"]`, `a2` = `lunar.jieQi["冬至"]`, bound to the
model's term-table entries.  Guards: the civil day of the receiver and of `a1` are valid days (they come
from validating constructors), `a2` too when it is used; the `NextDay(81)` call is `mi_NextDayOk`.
The result is the model's (index only; the name is a string outside the subset). -/
theorem lunarGetShuJiu_eq (fuel : Nat) (a1 a2 : Gen.Fn.Solar) (lunar : Gen.Fn.Lunar)
    (terms : List Model.Solar)
    (h1 : toM a1 = Model.termByName terms "DONG_ZHI") (h2 : toM a2 = Model.termByName terms "冬至")
    (hv : Model.validYmd lunar.solar.year lunar.solar.month lunar.solar.day = true)
    (hv1 : Model.validYmd a1.year a1.month a1.day = true)
    (hv2 : (Model.midnight (toM lunar.solar)).isBefore (Model.midnight (toM a1)) = true →
      Model.validYmd a2.year a2.month a2.day = true)
    (hnd : mi_NextDayOk fuel (ofM (mi_sjStart (toM lunar.solar) (toM a1) (toM a2))) 81) :
    Gen.Fn.calendar_Lunar_GetShuJiu fuel a1 a2 lunar =
      mi_sjRes ((mi_lunarToM lunar terms).shuJiu.map (Option.map Prod.snd)) := by
  -- whichever solstice is chosen, `start` is the midnight of a valid day `a`
  obtain ⟨a, hva, ea⟩ : ∃ a, Model.validYmd a.year a.month a.day = true ∧
      (if (Model.midnight (toM lunar.solar)).isBefore (Model.midnight (toM a1)) = true then
        Model.midnight (toM a2) else Model.midnight (toM a1)) = Model.midnight a := by
    split
    · exact ⟨toM a2, hv2 ‹_›, rfl⟩
    · exact ⟨toM a1, hv1, rfl⟩
  unfold mi_sjStart mi_NextDayOk at hnd
  rw [ea, toM_ofM] at hnd
  unfold Gen.Fn.calendar_Lunar_GetShuJiu Model.Lunar.shuJiu
  simp only [getYear_eq, getMonth_eq, getDay_eq, c1_ok_bind,
    mi_newYmd_midnight _ hv, mi_newYmd_midnight _ hv1, solarIsBefore_eq]
  refine (mi_sj_start _ _ _ _ hv2).trans ?_
  -- `toM (ofM _)` is removed by `rw`, which also reaches the `Decidable` instances of the `if`s
  rw [toM_ofM, toM_ofM, mi_lunarToM_terms, ← h1, ← h2, mi_lunarToM_solar, ea, hnd]
  rcases (Model.midnight a).nextDay 81 with _ | end_
  · rfl
  simp only [c1_ok_bind]
  rw [toM_ofM]
  cases hb : (Model.midnight (toM lunar.solar)).isBefore (Model.midnight a)
  case true => rfl
  rw [mi_subtract_ofM _ _ (mi_midnight_valid (toM lunar.solar) hv) (mi_midnight_valid a hva)]
  cases (Model.midnight (toM lunar.solar)).isBefore end_
  case false => rfl
  rcases hd : (Model.midnight (toM lunar.solar)).subtract (Model.midnight a) with _ | d
  · rfl
  have h0 := mi_midnight_sub_nonneg a (toM lunar.solar) hva hv hb d hd
  simp only [c1_ok_bind, Int.tmod_eq_emod_of_nonneg h0]
  rfl

theorem lunarGetShuJiu_panic_current (fuel : Nat) (a1 a2 : Gen.Fn.Solar) (lunar : Gen.Fn.Lunar)
    (hv : Model.validYmd lunar.solar.year lunar.solar.month lunar.solar.day = false) :
    Gen.Fn.calendar_Lunar_GetShuJiu fuel a1 a2 lunar = .error .panic := by
  unfold Gen.Fn.calendar_Lunar_GetShuJiu
  simp only [getYear_eq, getMonth_eq, getDay_eq, c1_ok_bind, mi_newYmd_panic _ hv]
  rfl

def mi_fuRes (r : Option (Option Int)) : Except Gen.Fn.Err (Option Gen.Fn.Fu) :=
  match r with
  | none => .error .panic
  | some none => .ok none
  | some (some i) => .ok (some ⟨i⟩)

/-- days from the summer solstice to the third 庚 (stem 6) day counted from it, `g` being the solstice's day stem -/
def mi_fuAdd (g : Int) : Int := (if 6 - g < 0 then 6 - g + 10 else 6 - g) + 20

/-- `Lunar.GetFu`.  Atoms: `a1` = `lunar.jieQi["夏至"]`, `a2` = `lunar.jieQi["立秋"]` (the model's term-table
entries), `a3` = `xiaZhi.GetLunar()` of which only the day stem index is read (= `Model.dayGanOf` of the
solstice).  Guards: the civil days of the receiver, of `a1` and of `a2` are valid days; the `NextDay` calls
are `mi_NextDayOk` (the first on the solstice day with the computed offset, the others with 10 days
on valid receivers).  The result is the model's index (the period name 初伏/中伏/末伏 is a string outside the
subset; the proof matches the generated `return`s one to one with the model's branches). -/
theorem lunarGetFu_eq (fuel : Nat) (a1 a2 : Gen.Fn.Solar) (a3 lunar : Gen.Fn.Lunar)
    (terms : List Model.Solar)
    (h1 : toM a1 = Model.termByName terms "夏至") (h2 : toM a2 = Model.termByName terms "立秋")
    (h3 : a3.dayGanIndex = Model.dayGanOf (toM a1))
    (hv : Model.validYmd lunar.solar.year lunar.solar.month lunar.solar.day = true)
    (hv1 : Model.validYmd a1.year a1.month a1.day = true)
    (hv2 : Model.validYmd a2.year a2.month a2.day = true)
    (hnd : mi_NextDayOk fuel (ofM (Model.midnight (toM a1))) (mi_fuAdd (Model.dayGanOf (toM a1))))
    (hnd10 : ∀ s : Model.Solar, s.valid = true → mi_NextDayOk fuel (ofM s) 10) :
    Gen.Fn.calendar_Lunar_GetFu fuel a1 a2 a3 lunar =
      mi_fuRes ((mi_lunarToM lunar terms).fu.map (Option.map Prod.snd)) := by
  -- every `start` is a `NextDay` result, hence valid, so `Subtract` from the receiver's day is the model's
  have hsub : ∀ {s r : Model.Solar} {n : Int}, s.nextDay n = some r → _ :=
    fun h => mi_subtract_ofM _ _ (mi_midnight_valid (toM lunar.solar) hv) (mi_nextDay_valid h)
  unfold mi_NextDayOk mi_fuAdd at *
  simp only [toM_ofM] at hnd hnd10
  unfold Gen.Fn.calendar_Lunar_GetFu Model.Lunar.fu
  simp only [getYear_eq, getMonth_eq, getDay_eq, mi_lunarGetDayGanIndex_eq, c1_ok_bind,
    mi_newYmd_midnight _ hv, mi_newYmd_midnight _ hv1, mi_newYmd_midnight _ hv2, solarIsBefore_eq,
    solarIsAfter_eq, decide_eq_true_eq]
  -- the two branches of `if add < 0` differ only in the argument of the first `NextDay`
  rw [← apply_ite (fun add => calendar_Solar_NextDay fuel _ add >>= _), ← apply_ite (· + 20), h3, hnd,
    toM_ofM, toM_ofM, mi_lunarToM_terms, ← h1, ← h2, mi_lunarToM_solar]
  rcases e1 : Model.Solar.nextDay _ _ with _ | s1
  · rfl
  simp only [c1_ok_bind]
  rw [toM_ofM]
  by_cases hb : (Model.midnight (toM lunar.solar)).isBefore s1 = true
  · rw [if_pos hb, if_pos hb]; rfl
  rw [if_neg hb, if_neg hb, hsub e1]
  rcases (Model.midnight (toM lunar.solar)).subtract s1 with _ | d1
  · rfl
  simp only [c1_ok_bind]
  by_cases c1 : d1 < 10
  · rw [if_pos c1, if_pos c1]; rfl
  rw [if_neg c1, if_neg c1, hnd10 _ (mi_nextDay_valid e1)]
  rcases e2 : s1.nextDay 10 with _ | s2
  · rfl
  simp only [c1_ok_bind, hsub e2]
  rcases (Model.midnight (toM lunar.solar)).subtract s2 with _ | d2
  · rfl
  simp only [c1_ok_bind]
  by_cases c2 : d2 < 10
  · rw [if_pos c2, if_pos c2]; rfl
  rw [if_neg c2, if_neg c2, hnd10 _ (mi_nextDay_valid e2)]
  rcases e3 : s2.nextDay 10 with _ | s3
  · rfl
  simp only [c1_ok_bind, hsub e3]
  rw [toM_ofM]
  rcases (Model.midnight (toM lunar.solar)).subtract s3 with _ | d3
  · rfl
  simp only [c1_ok_bind]
  by_cases ha : (Model.midnight (toM a2)).isAfter s3 = true
  case neg => rw [if_neg ha, if_neg ha]; split <;> rfl
  rw [if_pos ha, if_pos ha]
  by_cases c3 : d3 < 10
  · rw [if_pos c3, if_pos c3]; rfl
  rw [if_neg c3, if_neg c3, hnd10 _ (mi_nextDay_valid e3)]
  rcases e4 : s3.nextDay 10 with _ | s4
  · rfl
  simp only [c1_ok_bind, hsub e4]
  rcases (Model.midnight (toM lunar.solar)).subtract s4 with _ | d4
  · rfl
  simp only [c1_ok_bind]
  split <;> rfl

theorem lunarGetFu_panic_current (fuel : Nat) (a1 a2 : Gen.Fn.Solar) (a3 lunar : Gen.Fn.Lunar)
    (hv : Model.validYmd lunar.solar.year lunar.solar.month lunar.solar.day = false) :
    Gen.Fn.calendar_Lunar_GetFu fuel a1 a2 a3 lunar = .error .panic := by
  unfold Gen.Fn.calendar_Lunar_GetFu
  simp only [getYear_eq, getMonth_eq, getDay_eq, c1_ok_bind, mi_newYmd_panic _ hv]
  rfl

end FnEq
