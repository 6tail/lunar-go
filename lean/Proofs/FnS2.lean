/-
FnS2 — string-mode accessors of `Lunar` that depend on a pillar pair, the month / day branches, the weekday, the lunar
month / day: NaYin, ZhiXing, TianShen, mansions, YueXiang / LiuYao / Season / DayLu, foetus god, month / day Tai Sui, xun.
Where several accessors differ only in the index fields they read, the fact is proved once about the indices (`naYin_read`,
`tianShen_read`, `dayTaiSui_read`, `xunTable_read`) and each accessor is an instance, by unfolding.  Helpers special to this
file carry the prefix `s2_`.
-/
import Proofs.FnSBase
import Proofs.JiaZi
namespace FnSEq
open Gen.Fn (Err)

theorem naYin_read (g z : Int) (g0 : -1 ≤ g) (g1 : g < 10) (z0 : -1 ≤ z) (z1 : z < 12) :
    (readPillar g z >>= fun t => pure (Gen.FnS.mlookupS Gen.Tables.LunarUtil.«NAYIN» t)) = .ok (Model.naYinOf g z) :=
  bind_mlookupS (readPillar_eq g z g0 g1 z0 z1) _

section
variable (l : Gen.FnS.Lunar)

theorem lunarGetYearNaYin_eq (g0 : -1 ≤ l.yearGanIndex) (g1 : l.yearGanIndex < 10)
    (z0 : -1 ≤ l.yearZhiIndex) (z1 : l.yearZhiIndex < 12) :
    Gen.FnS.calendar_Lunar_GetYearNaYin l = .ok (Model.naYinOf l.yearGanIndex l.yearZhiIndex) :=
  naYin_read _ _ g0 g1 z0 z1

theorem lunarGetMonthNaYin_eq (g0 : -1 ≤ l.monthGanIndex) (g1 : l.monthGanIndex < 10)
    (z0 : -1 ≤ l.monthZhiIndex) (z1 : l.monthZhiIndex < 12) :
    Gen.FnS.calendar_Lunar_GetMonthNaYin l = .ok (Model.naYinOf l.monthGanIndex l.monthZhiIndex) :=
  naYin_read _ _ g0 g1 z0 z1

theorem lunarGetDayNaYin_eq (g0 : -1 ≤ l.dayGanIndex) (g1 : l.dayGanIndex < 10)
    (z0 : -1 ≤ l.dayZhiIndex) (z1 : l.dayZhiIndex < 12) :
    Gen.FnS.calendar_Lunar_GetDayNaYin l = .ok (Model.naYinOf l.dayGanIndex l.dayZhiIndex) :=
  naYin_read _ _ g0 g1 z0 z1

theorem lunarGetTimeNaYin_eq (g0 : -1 ≤ l.timeGanIndex) (g1 : l.timeGanIndex < 10)
    (z0 : -1 ≤ l.timeZhiIndex) (z1 : l.timeZhiIndex < 12) :
    Gen.FnS.calendar_Lunar_GetTimeNaYin l = .ok (Model.naYinOf l.timeGanIndex l.timeZhiIndex) :=
  naYin_read _ _ g0 g1 z0 z1

/-- exact guard: the offset `day branch − month branch` lies in −13..11 (it does, −11..11, for branches 0..11) -/
theorem lunarGetZhiXing_eq (h0 : -13 ≤ l.dayZhiIndex - l.monthZhiIndex) (h1 : l.dayZhiIndex - l.monthZhiIndex ≤ 11) :
    Gen.FnS.calendar_Lunar_GetZhiXing l = .ok (Model.zhiXing l.monthZhiIndex l.dayZhiIndex) :=
  (ite_decide_apply _ (fun o => Gen.FnS.sidx Gen.Tables.LunarUtil.«ZHI_XING» (o + 1)) _ _).trans
    (sidx_succ _ 12 rfl _ (by split <;> omega) (by split <;> omega))

theorem lunarGetZhiXing_panic (h : l.dayZhiIndex - l.monthZhiIndex < -13 ∨ 11 < l.dayZhiIndex - l.monthZhiIndex) :
    Gen.FnS.calendar_Lunar_GetZhiXing l = .error .panic :=
  (ite_decide_apply _ (fun o => Gen.FnS.sidx Gen.Tables.LunarUtil.«ZHI_XING» (o + 1)) _ _).trans
    (sidx_succ_out _ 12 rfl _ (by split <;> omega))

end

theorem s2_tianShenOffset_nonneg (k : String) :
    0 ≤ (Model.lookupS Gen.Tables.LunarUtil.«ZHI_TIAN_SHEN_OFFSET» k).getD 0 :=
  lookupS_getD_nonneg _ (by decide) k

/-- `TIAN_SHEN[(z + offset[ZHI[c+1]]) % 12 + 1]` for the counted unit's branch `z` and the containing unit's branch `c`:
Go's truncating `%` is the model's `%` as soon as the sum is ≥ 0 -/
theorem tianShen_read (z c : Int) (c0 : -1 ≤ c) (c1 : c < 12)
    (h : 0 ≤ z + (Model.lookupS Gen.Tables.LunarUtil.«ZHI_TIAN_SHEN_OFFSET» (Model.zhiStr c)).getD 0) :
    (Gen.FnS.sidx Gen.Tables.LunarUtil.«ZHI» (c + 1) >>= fun t1 =>
      Gen.FnS.sidx Gen.Tables.LunarUtil.«TIAN_SHEN»
        ((Int.tmod (z + (Gen.FnS.mlookupI Gen.Tables.LunarUtil.«ZHI_TIAN_SHEN_OFFSET» t1)) 12) + 1))
      = .ok (Model.tianShen z c) := by
  rw [sidx_ZHI c c0 c1, sb_bind_ok, mlookupI_eq, Int.tmod_eq_emod_of_nonneg h]
  exact sidx_succ _ 12 rfl _ (by omega) (by omega)

section
variable (l : Gen.FnS.Lunar)

/-- day spirit: counted unit = day branch, container = month branch -/
theorem lunarGetDayTianShen_eq (m0 : -1 ≤ l.monthZhiIndex) (m1 : l.monthZhiIndex < 12) (hd : 0 ≤ l.dayZhiIndex) :
    Gen.FnS.calendar_Lunar_GetDayTianShen l = .ok (Model.tianShen l.dayZhiIndex l.monthZhiIndex) :=
  tianShen_read _ _ m0 m1 (Int.add_nonneg hd (s2_tianShenOffset_nonneg _))

theorem lunarGetDayTianShenType_eq (m0 : -1 ≤ l.monthZhiIndex) (m1 : l.monthZhiIndex < 12) (hd : 0 ≤ l.dayZhiIndex) :
    Gen.FnS.calendar_Lunar_GetDayTianShenType l
      = .ok (Model.tianShenType (Model.tianShen l.dayZhiIndex l.monthZhiIndex)) :=
  bind_mlookupS (lunarGetDayTianShen_eq l m0 m1 hd) _

theorem lunarGetDayTianShenLuck_eq (m0 : -1 ≤ l.monthZhiIndex) (m1 : l.monthZhiIndex < 12) (hd : 0 ≤ l.dayZhiIndex) :
    Gen.FnS.calendar_Lunar_GetDayTianShenLuck l
      = .ok (Model.tianShenLuck (Model.tianShen l.dayZhiIndex l.monthZhiIndex)) :=
  bind_mlookupS (lunarGetDayTianShenType_eq l m0 m1 hd) _

/-- hour spirit: counted unit = hour branch, container = day branch (exact, i.e. switching at 23:00) -/
theorem lunarGetTimeTianShen_eq (d0 : -1 ≤ l.dayZhiIndexExact) (d1 : l.dayZhiIndexExact < 12) (ht : 0 ≤ l.timeZhiIndex) :
    Gen.FnS.calendar_Lunar_GetTimeTianShen l = .ok (Model.tianShen l.timeZhiIndex l.dayZhiIndexExact) :=
  tianShen_read _ _ d0 d1 (Int.add_nonneg ht (s2_tianShenOffset_nonneg _))

theorem lunarGetTimeTianShenType_eq (d0 : -1 ≤ l.dayZhiIndexExact) (d1 : l.dayZhiIndexExact < 12) (ht : 0 ≤ l.timeZhiIndex) :
    Gen.FnS.calendar_Lunar_GetTimeTianShenType l
      = .ok (Model.tianShenType (Model.tianShen l.timeZhiIndex l.dayZhiIndexExact)) :=
  bind_mlookupS (lunarGetTimeTianShen_eq l d0 d1 ht) _

theorem lunarGetTimeTianShenLuck_eq (d0 : -1 ≤ l.dayZhiIndexExact) (d1 : l.dayZhiIndexExact < 12) (ht : 0 ≤ l.timeZhiIndex) :
    Gen.FnS.calendar_Lunar_GetTimeTianShenLuck l
      = .ok (Model.tianShenLuck (Model.tianShen l.timeZhiIndex l.dayZhiIndexExact)) :=
  bind_mlookupS (lunarGetTimeTianShenType_eq l d0 d1 ht) _

theorem lunarGetXiu_eq (z0 : -1 ≤ l.dayZhiIndex) (z1 : l.dayZhiIndex < 12) :
    Gen.FnS.calendar_Lunar_GetXiu l = .ok (Model.xiu l.dayZhiIndex l.weekIndex) := by
  unfold Gen.FnS.calendar_Lunar_GetXiu
  rw [lunarGetDayZhi_eq l z0 z1, sb_bind_ok, lunarGetWeek_eq, sb_bind_ok, mlookupS_eq_lookupStr, fmtD_eq]; rfl

theorem lunarGetXiu_panic (h : l.dayZhiIndex < -1 ∨ 12 ≤ l.dayZhiIndex) :
    Gen.FnS.calendar_Lunar_GetXiu l = .error .panic :=
  bind_panic (lunarGetDayZhi_panic l h) _

theorem lunarGetXiuLuck_eq (z0 : -1 ≤ l.dayZhiIndex) (z1 : l.dayZhiIndex < 12) :
    Gen.FnS.calendar_Lunar_GetXiuLuck l = .ok (Model.xiuLuck (Model.xiu l.dayZhiIndex l.weekIndex)) :=
  bind_mlookupS (lunarGetXiu_eq l z0 z1) _

theorem lunarGetXiuSong_eq (z0 : -1 ≤ l.dayZhiIndex) (z1 : l.dayZhiIndex < 12) :
    Gen.FnS.calendar_Lunar_GetXiuSong l = .ok (Model.xiuSong (Model.xiu l.dayZhiIndex l.weekIndex)) :=
  bind_mlookupS (lunarGetXiu_eq l z0 z1) _

theorem lunarGetZheng_eq (z0 : -1 ≤ l.dayZhiIndex) (z1 : l.dayZhiIndex < 12) :
    Gen.FnS.calendar_Lunar_GetZheng l = .ok (Model.zheng (Model.xiu l.dayZhiIndex l.weekIndex)) :=
  bind_mlookupS (lunarGetXiu_eq l z0 z1) _

theorem lunarGetAnimal_eq (z0 : -1 ≤ l.dayZhiIndex) (z1 : l.dayZhiIndex < 12) :
    Gen.FnS.calendar_Lunar_GetAnimal l = .ok (Model.animal (Model.xiu l.dayZhiIndex l.weekIndex)) :=
  bind_mlookupS (lunarGetXiu_eq l z0 z1) _

theorem lunarGetGong_eq (z0 : -1 ≤ l.dayZhiIndex) (z1 : l.dayZhiIndex < 12) :
    Gen.FnS.calendar_Lunar_GetGong l = .ok (Model.gong (Model.xiu l.dayZhiIndex l.weekIndex)) :=
  bind_mlookupS (lunarGetXiu_eq l z0 z1) _

theorem lunarGetShou_eq (z0 : -1 ≤ l.dayZhiIndex) (z1 : l.dayZhiIndex < 12) :
    Gen.FnS.calendar_Lunar_GetShou l = .ok (Model.shou (Model.xiu l.dayZhiIndex l.weekIndex)) :=
  bind_mlookupS (lunarGetGong_eq l z0 z1) _

theorem lunarGetYueXiang_eq (h0 : 0 ≤ l.day) (h1 : l.day < 31) :
    Gen.FnS.calendar_Lunar_GetYueXiang l = .ok (Model.yueXiang l.day) :=
  sidx_in _ 31 rfl _ h0 h1

theorem lunarGetYueXiang_panic (h : l.day < 0 ∨ 31 ≤ l.day) :
    Gen.FnS.calendar_Lunar_GetYueXiang l = .error .panic :=
  sidx_out _ 31 rfl _ h

/-- `GetLiuYao` reads `LIU_YAO` at this index (|month| of the generated code is the model's `absI'`) -/
theorem s2_liuYao_unfold : Gen.FnS.calendar_Lunar_GetLiuYao l
    = Gen.FnS.sidx Gen.Tables.LunarUtil.«LIU_YAO» ((Model.liuYao.absI' l.month + l.day - 2).tmod 6) := by
  refine (ite_decide_apply _ (fun m => Gen.FnS.sidx Gen.Tables.LunarUtil.«LIU_YAO» ((m + l.day - 2).tmod 6)) _ _).trans ?_
  rw [show (if l.month < 0 then 0 - l.month else l.month) = Model.liuYao.absI' l.month by
    unfold Model.liuYao.absI'; split <;> omega]

/-- the only way to leave the table is a negative remainder (`|month| + day < 2` and not a multiple of 6); for month ≠ 0, day ≥ 1
the sum `|month| + day − 2` is ≥ 0. Exact guard: -/
theorem lunarGetLiuYao_eq (h : 0 ≤ (Model.liuYao.absI' l.month + l.day - 2).tmod 6) :
    Gen.FnS.calendar_Lunar_GetLiuYao l = .ok (Model.liuYao l.month l.day) :=
  (s2_liuYao_unfold l).trans (sidx_in _ 6 rfl _ h (Int.tmod_lt_of_pos _ (by decide)))

/-- the natural guard -/
theorem lunarGetLiuYao_eq' (h : 2 ≤ Model.liuYao.absI' l.month + l.day) :
    Gen.FnS.calendar_Lunar_GetLiuYao l = .ok (Model.liuYao l.month l.day) :=
  lunarGetLiuYao_eq l (Int.tmod_nonneg _ (by omega))

theorem lunarGetLiuYao_panic (h : (Model.liuYao.absI' l.month + l.day - 2).tmod 6 < 0) :
    Gen.FnS.calendar_Lunar_GetLiuYao l = .error .panic :=
  (s2_liuYao_unfold l).trans (sidx_out _ 6 rfl _ (Or.inl h))

theorem lunarGetSeason_eq (h0 : -13 < l.month) (h1 : l.month < 13) :
    Gen.FnS.calendar_Lunar_GetSeason l = .ok (Model.season l.month) :=
  (ite_decide_apply _ (Gen.FnS.sidx Gen.Tables.LunarUtil.«SEASON») _ _).trans
    (sidx_in _ 13 rfl _ (by split <;> omega) (by split <;> omega))

theorem lunarGetSeason_panic (h : l.month ≤ -13 ∨ 13 ≤ l.month) :
    Gen.FnS.calendar_Lunar_GetSeason l = .error .panic :=
  (ite_decide_apply _ (Gen.FnS.sidx Gen.Tables.LunarUtil.«SEASON») _ _).trans
    (sidx_out _ 13 rfl _ (by split <;> omega))

theorem lunarGetDayLu_eq (g0 : -1 ≤ l.dayGanIndex) (g1 : l.dayGanIndex < 10)
    (z0 : -1 ≤ l.dayZhiIndex) (z1 : l.dayZhiIndex < 12) :
    Gen.FnS.calendar_Lunar_GetDayLu l = .ok (Model.dayLu l.dayGanIndex l.dayZhiIndex) := by
  unfold Gen.FnS.calendar_Lunar_GetDayLu Model.dayLu
  rw [lunarGetDayGan_eq l g0 g1, sb_bind_ok, lunarGetDayZhi_eq l z0 z1, sb_bind_ok]
  simp only [mhas_eq, mlookupS_eq_lookupStr]
  unfold Model.lookupStr
  cases Model.lookupS Gen.Tables.LunarUtil.«LU» (Model.zhiStr l.dayZhiIndex) with
  | none => rfl
  | some v => simp only [Option.isSome_some, if_true, Option.getD_some, String.append_assoc]; rfl

/-- leap months (negative) give ""; otherwise `POSITION_TAI_MONTH[month-1]`, which needs month 1..12 -/
theorem lunarGetMonthPositionTai_eq (h : l.month < 0 ∨ (1 ≤ l.month ∧ l.month ≤ 12)) :
    Gen.FnS.calendar_Lunar_GetMonthPositionTai l = .ok (Model.positionTaiMonth l.month) :=
  ite_pure_ok rfl _ fun hm => sidx_in _ 12 rfl _ (by omega) (by omega)

theorem lunarGetMonthPositionTai_panic (h : l.month = 0 ∨ 13 ≤ l.month) :
    Gen.FnS.calendar_Lunar_GetMonthPositionTai l = .error .panic := by
  unfold Gen.FnS.calendar_Lunar_GetMonthPositionTai
  rw [if_neg (by simp; omega)]; exact sidx_out _ 12 rfl _ (by omega)

/-- `LunarUtil.GetJiaZiIndex` is the model's `jiaZiIndexOfStr` (for every string) -/
theorem getJiaZiIndex_eq (s : String) :
    Gen.FnS.LunarUtil_GetJiaZiIndex s = .ok (Model.jiaZiIndexOfStr s) := by
  unfold Gen.FnS.LunarUtil_GetJiaZiIndex Model.jiaZiIndexOfStr
  rw [forIn_range_search Gen.Tables.LunarUtil.«JIA_ZI» 60 rfl s _ (fun i => (some (i : Int), ())) _ fun k hk => by
    simp only [sidx_nat _ k hk, sb_bind_ok, decide_eq_true_eq]]
  cases Gen.Tables.LunarUtil.«JIA_ZI».findIdx? (· == s) <;> rfl

theorem s2_jiaZiIndexOfStr_lt (s : String) : Model.jiaZiIndexOfStr s < 60 := by
  unfold Model.jiaZiIndexOfStr
  cases hf : Gen.Tables.LunarUtil.«JIA_ZI».findIdx? (· == s) with
  | none => simp
  | some i =>
    have := (List.findIdx?_eq_some_iff_getElem.mp hf).1
    rw [Model.jiazi_len] at this
    simp only; omega

theorem s2_jiaZiIndexOfStr_ge (s : String) : -1 ≤ Model.jiaZiIndexOfStr s := by
  unfold Model.jiaZiIndexOfStr
  cases Gen.Tables.LunarUtil.«JIA_ZI».findIdx? (· == s) with
  | none => simp
  | some i => simp only; omega

theorem s2_positionTai_unfold (g0 : -1 ≤ l.dayGanIndex) (g1 : l.dayGanIndex < 10)
    (z0 : -1 ≤ l.dayZhiIndex) (z1 : l.dayZhiIndex < 12) :
    Gen.FnS.calendar_Lunar_GetDayPositionTai l
      = Gen.FnS.sidx Gen.Tables.LunarUtil.«POSITION_TAI_DAY» (Model.ganZhiIndex l.dayGanIndex l.dayZhiIndex) := by
  unfold Gen.FnS.calendar_Lunar_GetDayPositionTai
  rw [lunarGetDayInGanZhi_eq l g0 g1 z0 z1, sb_bind_ok, getJiaZiIndex_eq, sb_bind_ok]; rfl

/-- the day pillar must be one of the sixty (stem and branch of equal parity): guard `0 ≤ ganZhiIndex g z`; otherwise
`GetJiaZiIndex` gives −1 and the table read panics -/
theorem lunarGetDayPositionTai_eq (g0 : -1 ≤ l.dayGanIndex) (g1 : l.dayGanIndex < 10)
    (z0 : -1 ≤ l.dayZhiIndex) (z1 : l.dayZhiIndex < 12) (hp : 0 ≤ Model.ganZhiIndex l.dayGanIndex l.dayZhiIndex) :
    Gen.FnS.calendar_Lunar_GetDayPositionTai l = .ok (Model.positionTaiDay l.dayGanIndex l.dayZhiIndex) :=
  (s2_positionTai_unfold l g0 g1 z0 z1).trans (sidx_in _ 60 rfl _ hp (s2_jiaZiIndexOfStr_lt _))

theorem lunarGetDayPositionTai_panic (g0 : -1 ≤ l.dayGanIndex) (g1 : l.dayGanIndex < 10)
    (z0 : -1 ≤ l.dayZhiIndex) (z1 : l.dayZhiIndex < 12) (hp : Model.ganZhiIndex l.dayGanIndex l.dayZhiIndex < 0) :
    Gen.FnS.calendar_Lunar_GetDayPositionTai l = .error .panic :=
  (s2_positionTai_unfold l g0 g1 z0 z1).trans (sidx_panic _ _ (Or.inl hp))

/-- natural guard: a proper pillar (stem 0..9, branch 0..11, equal parity) -/
theorem lunarGetDayPositionTai_eq' (g0 : 0 ≤ l.dayGanIndex) (g1 : l.dayGanIndex < 10)
    (z0 : 0 ≤ l.dayZhiIndex) (z1 : l.dayZhiIndex < 12) (hp : l.dayGanIndex % 2 = l.dayZhiIndex % 2) :
    Gen.FnS.calendar_Lunar_GetDayPositionTai l = .ok (Model.positionTaiDay l.dayGanIndex l.dayZhiIndex) := by
  apply lunarGetDayPositionTai_eq l (by omega) g1 (by omega) z1
  rw [Model.ganZhiIndex_eq _ _ ⟨g0, by omega⟩ ⟨z0, by omega⟩ hp]; omega

/-- mixed parity (never produced by the library): Go panics -/
theorem lunarGetDayPositionTai_panic' (g0 : 0 ≤ l.dayGanIndex) (g1 : l.dayGanIndex < 10)
    (z0 : 0 ≤ l.dayZhiIndex) (z1 : l.dayZhiIndex < 12) (hp : l.dayGanIndex % 2 ≠ l.dayZhiIndex % 2) :
    Gen.FnS.calendar_Lunar_GetDayPositionTai l = .error .panic := by
  apply lunarGetDayPositionTai_panic l (by omega) g1 (by omega) z1
  rw [Model.ganZhiIndex_mixed _ _ ⟨g0, by omega⟩ ⟨z0, by omega⟩ hp]; omega

/-- the stem is read only in the branch `m = 1` (months 卯, 未, 亥 for branches 0..11): the guard on it is conditional -/
theorem s2_getMonthPositionTaiSui (mz mg : Int)
    (h : (if mz - 2 < 0 then mz - 2 + 12 else mz - 2).tmod 4 ∈ [0, 2, 3] ∨ (0 ≤ mg ∧ mg < 10)) :
    Gen.FnS.calendar_Lunar_getMonthPositionTaiSui l mz mg = .ok (Model.monthPositionTaiSui mz mg) := by
  unfold Gen.FnS.calendar_Lunar_getMonthPositionTaiSui Model.monthPositionTaiSui
  simp only [show Gen.Tables.LunarUtil.«BASE_MONTH_ZHI_INDEX» = 2 from rfl]
  by_cases hm : mz - 2 < 0 <;> simp only [hm, decide_true, decide_false, if_true, if_false, Bool.false_eq_true] at h ⊢ <;>
    -- one `ite_pure_ok` per `case` of the `switch`; in the `default` arm the three tests have failed, so `h` gives the stem's range
    exact ite_pure_ok rfl _ fun h0 => ite_pure_ok rfl _ fun h2 => ite_pure_ok rfl _ fun h3 => by
      have hg := h.resolve_left (by simp [h0, h2, h3])
      rw [sidx_in _ 10 rfl mg hg.1 hg.2]; rfl

/-- sect 3 reads the exact month pillar, every other sect the plain one -/
theorem lunarGetMonthPositionTaiSuiBySect_eq (sect : Int)
    (h : (if (if sect = 3 then l.monthZhiIndexExact else l.monthZhiIndex) - 2 < 0
            then (if sect = 3 then l.monthZhiIndexExact else l.monthZhiIndex) - 2 + 12
            else (if sect = 3 then l.monthZhiIndexExact else l.monthZhiIndex) - 2).tmod 4 ∈ [0, 2, 3] ∨
         (0 ≤ (if sect = 3 then l.monthGanIndexExact else l.monthGanIndex) ∧
          (if sect = 3 then l.monthGanIndexExact else l.monthGanIndex) < 10)) :
    Gen.FnS.calendar_Lunar_GetMonthPositionTaiSuiBySect l sect
      = .ok (Model.monthPositionTaiSui (if sect = 3 then l.monthZhiIndexExact else l.monthZhiIndex)
               (if sect = 3 then l.monthGanIndexExact else l.monthGanIndex)) := by
  unfold Gen.FnS.calendar_Lunar_GetMonthPositionTaiSuiBySect
  by_cases hs : sect = 3 <;> simp only [hs, decide_true, decide_false, if_true, if_false, Bool.false_eq_true] at h ⊢ <;>
    exact s2_getMonthPositionTaiSui l _ _ h

/-- simple guard: month stem 0..9 -/
theorem lunarGetMonthPositionTaiSui_eq (g0 : 0 ≤ l.monthGanIndex) (g1 : l.monthGanIndex < 10) :
    Gen.FnS.calendar_Lunar_GetMonthPositionTaiSui l
      = .ok (Model.monthPositionTaiSui l.monthZhiIndex l.monthGanIndex) :=
  lunarGetMonthPositionTaiSuiBySect_eq l 2 (Or.inr ⟨g0, g1⟩)

/-- the stem is not read at all when `(monthZhi − 2 (+12)) tmod 4 ≠ 1` -/
theorem lunarGetMonthPositionTaiSui_eq' 
    (h : (if l.monthZhiIndex - 2 < 0 then l.monthZhiIndex - 2 + 12 else l.monthZhiIndex - 2).tmod 4 ∈ [0, 2, 3]) :
    Gen.FnS.calendar_Lunar_GetMonthPositionTaiSui l
      = .ok (Model.monthPositionTaiSui l.monthZhiIndex l.monthGanIndex) :=
  lunarGetMonthPositionTaiSuiBySect_eq l 2 (Or.inl h)

theorem s2_getDayPositionTaiSui (d : String) (yz : Int) (hd : d ≠ "") (y0 : 0 ≤ yz) (y1 : yz < 12) :
    Gen.FnS.calendar_Lunar_getDayPositionTaiSui l d yz = .ok (Model.dayPositionTaiSui d yz) :=
  have hc := fun group => strContains_eq group d hd
  ite_pure_ok (hc _) _ fun _ => ite_pure_ok (hc _) _ fun _ => ite_pure_ok (hc _) _ fun _ =>
    ite_pure_ok (hc _) _ fun _ => ite_pure_ok (hc _) _ fun _ => by
      rw [sidx_in _ 12 rfl yz y0 y1]; rfl

/-- outside the natural guard — an EMPTY day pillar name — Go answers "震" (`strings.Contains(s, "")` is true) while the model's
`splitOn` test fails for the empty needle and falls through to the year table. Only reachable with stem = branch = −1. -/
theorem s2_getDayPositionTaiSui_empty (yz : Int) :
    Gen.FnS.calendar_Lunar_getDayPositionTaiSui l "" yz = .ok "震" := by
  unfold Gen.FnS.calendar_Lunar_getDayPositionTaiSui
  rw [if_pos (by decide)]; rfl

theorem s2_ganStr_ne (g : Int) (h0 : 0 ≤ g) (h1 : g < 10) : Model.ganStr g ≠ "" :=
  forall_range (Model.ganStr · ≠ "") 0 10 (by decide) g h0 h1

theorem s2_zhiStr_ne (z : Int) (h0 : 0 ≤ z) (h1 : z < 12) : Model.zhiStr z ≠ "" :=
  forall_range (Model.zhiStr · ≠ "") 0 12 (by decide) z h0 h1

theorem s2_pillarStr_ne (g z : Int) (h : (0 ≤ g ∧ g < 10) ∨ (0 ≤ z ∧ z < 12)) : Model.EightChar.pillarStr g z ≠ "" := by
  unfold Model.EightChar.pillarStr
  intro he
  rw [String.append_eq_empty_iff] at he
  rcases h with h | h
  · exact s2_ganStr_ne g h.1 h.2 he.1
  · exact s2_zhiStr_ne z h.1 h.2 he.2

theorem dayTaiSui_read (g z yz : Int) (g0 : -1 ≤ g) (g1 : g < 10) (z0 : -1 ≤ z) (z1 : z < 12) (hne : 0 ≤ g ∨ 0 ≤ z)
    (y0 : 0 ≤ yz) (y1 : yz < 12) :
    (readPillar g z >>= fun d => Gen.FnS.calendar_Lunar_getDayPositionTaiSui l d yz)
      = .ok (Model.dayPositionTaiSui (Model.EightChar.pillarStr g z) yz) := by
  rw [readPillar_eq g z g0 g1 z0 z1, sb_bind_ok]
  exact s2_getDayPositionTaiSui l _ _ (s2_pillarStr_ne _ _ (by omega)) y0 y1

/-- the day pillar and the year branch by sect: 1 → (day, year), 3 → (day, yearExact), otherwise → (dayExact2, yearByLiChun) -/
theorem lunarGetDayPositionTaiSuiBySect_eq (sect : Int)
    (g0 : -1 ≤ (if sect = 1 ∨ sect = 3 then l.dayGanIndex else l.dayGanIndexExact2))
    (g1 : (if sect = 1 ∨ sect = 3 then l.dayGanIndex else l.dayGanIndexExact2) < 10)
    (z0 : -1 ≤ (if sect = 1 ∨ sect = 3 then l.dayZhiIndex else l.dayZhiIndexExact2))
    (z1 : (if sect = 1 ∨ sect = 3 then l.dayZhiIndex else l.dayZhiIndexExact2) < 12)
    (hne : 0 ≤ (if sect = 1 ∨ sect = 3 then l.dayGanIndex else l.dayGanIndexExact2) ∨
           0 ≤ (if sect = 1 ∨ sect = 3 then l.dayZhiIndex else l.dayZhiIndexExact2))
    (y0 : 0 ≤ (if sect = 1 then l.yearZhiIndex else if sect = 3 then l.yearZhiIndexExact else l.yearZhiIndexByLiChun))
    (y1 : (if sect = 1 then l.yearZhiIndex else if sect = 3 then l.yearZhiIndexExact else l.yearZhiIndexByLiChun) < 12) :
    Gen.FnS.calendar_Lunar_GetDayPositionTaiSuiBySect l sect
      = .ok (Model.dayPositionTaiSui
          (Model.EightChar.pillarStr (if sect = 1 ∨ sect = 3 then l.dayGanIndex else l.dayGanIndexExact2)
             (if sect = 1 ∨ sect = 3 then l.dayZhiIndex else l.dayZhiIndexExact2))
          (if sect = 1 then l.yearZhiIndex else if sect = 3 then l.yearZhiIndexExact else l.yearZhiIndexByLiChun)) := by
  unfold Gen.FnS.calendar_Lunar_GetDayPositionTaiSuiBySect
  -- for the literal sects every `if` above and in the code evaluates
  rcases (by omega : sect = 1 ∨ sect = 3 ∨ (sect ≠ 1 ∧ sect ≠ 3)) with rfl | rfl | ⟨h1, h3⟩
  · exact dayTaiSui_read l _ _ _ g0 g1 z0 z1 hne y0 y1
  · exact dayTaiSui_read l _ _ _ g0 g1 z0 z1 hne y0 y1
  · simp only [h1, h3, or_self, if_false, decide_false, Bool.false_eq_true] at g0 g1 z0 z1 hne y0 y1 ⊢
    exact dayTaiSui_read l _ _ _ g0 g1 z0 z1 hne y0 y1

/-- the default (sect 2): exact-2 day pillar, year branch by Lichun -/
theorem lunarGetDayPositionTaiSui_eq
    (g0 : -1 ≤ l.dayGanIndexExact2) (g1 : l.dayGanIndexExact2 < 10)
    (z0 : -1 ≤ l.dayZhiIndexExact2) (z1 : l.dayZhiIndexExact2 < 12)
    (hne : 0 ≤ l.dayGanIndexExact2 ∨ 0 ≤ l.dayZhiIndexExact2)
    (y0 : 0 ≤ l.yearZhiIndexByLiChun) (y1 : l.yearZhiIndexByLiChun < 12) :
    Gen.FnS.calendar_Lunar_GetDayPositionTaiSui l
      = .ok (Model.dayPositionTaiSui (Model.EightChar.pillarStr l.dayGanIndexExact2 l.dayZhiIndexExact2)
               l.yearZhiIndexByLiChun) :=
  lunarGetDayPositionTaiSuiBySect_eq l 2 g0 g1 z0 z1 hne y0 y1

/-- the empty day pillar (stem = branch = −1, not produced by the library): Go answers "震" whatever the year -/
theorem lunarGetDayPositionTaiSui_emptyPillar (hg : l.dayGanIndexExact2 = -1) (hz : l.dayZhiIndexExact2 = -1) :
    Gen.FnS.calendar_Lunar_GetDayPositionTaiSui l = .ok "震" := by
  show (readPillar l.dayGanIndexExact2 l.dayZhiIndexExact2 >>= fun d =>
    Gen.FnS.calendar_Lunar_getDayPositionTaiSui l d l.yearZhiIndexByLiChun) = _
  rw [hg, hz]; exact s2_getDayPositionTaiSui_empty l l.yearZhiIndexByLiChun

/-- the `range` loops with `break` of `GetXunIndex`: the position of `g` in `T`, or the value the variable had -/
theorem s2_break_loop (T : List String) (n : Nat) (hn : T.length = n) (g : String) (init : Int) :
    forIn (m := Except Err) [0:n] init
      (fun (k : Nat) (r : Int) => do
        let v ← Gen.FnS.sidx T (k : Int)
        if decide (Gen.FnS.strCompare v g = 0) = true then pure (ForInStep.done (k : Int))
        else pure (ForInStep.yield r)) =
      Except.ok (match T.findIdx? (· == g) with
        | some i => (i : Int)
        | none => init) :=
  forIn_range_search T n hn g init (fun i => (i : Int)) _ fun k hk => by
    simp only [sidx_nat T k hk, sb_bind_ok, decide_eq_true_eq, strCompare_eq_zero]

theorem s2_ganStr_toList (g : Int) (h0 : 0 ≤ g) (h1 : g < 10) : ∃ c, (Model.ganStr g).toList = [c] :=
  List.length_eq_one_iff.mp (forall_range (fun g => (Model.ganStr g).toList.length = 1) 0 10 (by decide) g h0 h1)

theorem s2_GAN_findIdx (g : Int) (h0 : 0 ≤ g) (h1 : g < 10) :
    Gen.Tables.LunarUtil.«GAN».findIdx? (· == Model.ganStr g) = some (g + 1).toNat :=
  forall_range (fun g => Gen.Tables.LunarUtil.«GAN».findIdx? (· == Model.ganStr g) = some (g + 1).toNat) 0 10 (by decide) g h0 h1

theorem s2_ZHI_findIdx (z : Int) (h0 : 0 ≤ z) (h1 : z < 12) :
    Gen.Tables.LunarUtil.«ZHI».findIdx? (· == Model.zhiStr z) = some (z + 1).toNat :=
  forall_range (fun z => Gen.Tables.LunarUtil.«ZHI».findIdx? (· == Model.zhiStr z) = some (z + 1).toNat) 0 12 (by decide) z h0 h1

/-- the string-level bridge: on the name of a proper pillar (stem 0..9, branch 0..11), `LunarUtil.GetXunIndex` (rune slicing, two
table searches, truncating division) is the model's arithmetic `xunIndexOf` -/
theorem getXunIndex_pillar (g z : Int) (g0 : 0 ≤ g) (g1 : g < 10) (z0 : 0 ≤ z) (z1 : z < 12) :
    Gen.FnS.LunarUtil_GetXunIndex (Model.EightChar.pillarStr g z) = .ok (Model.EightChar.xunIndexOf g z) := by
  obtain ⟨c, hc⟩ := s2_ganStr_toList g g0 g1
  have hgan : String.ofList [c] = Model.ganStr g := by rw [← hc]; exact String.ofList_toList
  have hl : (Model.EightChar.pillarStr g z).toList = c :: (Model.zhiStr z).toList := by
    unfold Model.EightChar.pillarStr; rw [String.toList_append, hc]; rfl
  unfold Gen.FnS.LunarUtil_GetXunIndex Model.EightChar.xunIndexOf
  simp only [hl, runesSlice_head, runesSlice_tail, sb_bind_ok, hgan, String.ofList_toList]
  rw [s2_break_loop _ 11 rfl, s2_GAN_findIdx g g0 g1, sb_bind_ok, s2_break_loop _ 13 rfl, s2_ZHI_findIdx z z0 z1, sb_bind_ok]
  simp only [Int.toNat_of_nonneg (show 0 ≤ g + 1 by omega), Int.toNat_of_nonneg (show 0 ≤ z + 1 by omega)]
  refine (ite_decide_apply _ (fun d => pure (Int.tdiv d 2)) _ _).trans ?_
  rw [Int.tdiv_eq_ediv_of_nonneg (by split <;> omega)]; rfl

theorem s2_xunIndexOf_range (g z : Int) (g0 : 0 ≤ g) (g1 : g < 10) (z0 : 0 ≤ z) (z1 : z < 12) :
    0 ≤ Model.EightChar.xunIndexOf g z ∧ Model.EightChar.xunIndexOf g z < 6 := by
  unfold Model.EightChar.xunIndexOf
  simp only []
  split <;> omega

/-- `GetXun` and `GetXunKong` differ only in the six-entry table they read at `GetXunIndex` -/
theorem s2_xunTable (T : List String) (hT : T.length = 6) (g z : Int) (g0 : 0 ≤ g) (g1 : g < 10) (z0 : 0 ≤ z) (z1 : z < 12) :
    (Gen.FnS.LunarUtil_GetXunIndex (Model.EightChar.pillarStr g z) >>= fun i => Gen.FnS.sidx T i)
      = .ok (Model.strGetD T (Model.EightChar.xunIndexOf g z)) := by
  have hr := s2_xunIndexOf_range g z g0 g1 z0 z1
  rw [getXunIndex_pillar g z g0 g1 z0 z1, sb_bind_ok]; exact sidx_in _ 6 hT _ hr.1 hr.2

theorem getXun_pillar (g z : Int) (g0 : 0 ≤ g) (g1 : g < 10) (z0 : 0 ≤ z) (z1 : z < 12) :
    Gen.FnS.LunarUtil_GetXun (Model.EightChar.pillarStr g z) = .ok (Model.EightChar.xun g z) :=
  s2_xunTable _ rfl g z g0 g1 z0 z1

theorem getXunKong_pillar (g z : Int) (g0 : 0 ≤ g) (g1 : g < 10) (z0 : 0 ≤ z) (z1 : z < 12) :
    Gen.FnS.LunarUtil_GetXunKong (Model.EightChar.pillarStr g z) = .ok (Model.EightChar.xunKong g z) :=
  s2_xunTable _ rfl g z g0 g1 z0 z1

/-- every `…Xun…` accessor; guard = a proper pillar (stem 0..9, branch 0..11), no parity condition is needed -/
theorem xunTable_read (T : List String) (hT : T.length = 6) (g z : Int) (g0 : 0 ≤ g) (g1 : g < 10) (z0 : 0 ≤ z) (z1 : z < 12) :
    (readPillar g z >>= fun s => Gen.FnS.LunarUtil_GetXunIndex s >>= fun i => Gen.FnS.sidx T i)
      = .ok (Model.strGetD T (Model.EightChar.xunIndexOf g z)) := by
  rw [readPillar_eq g z (by omega) g1 (by omega) z1, sb_bind_ok]; exact s2_xunTable T hT g z g0 g1 z0 z1

theorem lunarGetYearXun_eq (g0 : 0 ≤ l.yearGanIndex) (g1 : l.yearGanIndex < 10) (z0 : 0 ≤ l.yearZhiIndex) (z1 : l.yearZhiIndex < 12) :
    Gen.FnS.calendar_Lunar_GetYearXun l = .ok (Model.EightChar.xun l.yearGanIndex l.yearZhiIndex) :=
  xunTable_read _ rfl _ _ g0 g1 z0 z1

theorem lunarGetYearXunKong_eq (g0 : 0 ≤ l.yearGanIndex) (g1 : l.yearGanIndex < 10) (z0 : 0 ≤ l.yearZhiIndex) (z1 : l.yearZhiIndex < 12) :
    Gen.FnS.calendar_Lunar_GetYearXunKong l = .ok (Model.EightChar.xunKong l.yearGanIndex l.yearZhiIndex) :=
  xunTable_read _ rfl _ _ g0 g1 z0 z1

theorem lunarGetYearXunByLiChun_eq (g0 : 0 ≤ l.yearGanIndexByLiChun) (g1 : l.yearGanIndexByLiChun < 10) (z0 : 0 ≤ l.yearZhiIndexByLiChun) (z1 : l.yearZhiIndexByLiChun < 12) :
    Gen.FnS.calendar_Lunar_GetYearXunByLiChun l = .ok (Model.EightChar.xun l.yearGanIndexByLiChun l.yearZhiIndexByLiChun) :=
  xunTable_read _ rfl _ _ g0 g1 z0 z1

theorem lunarGetYearXunKongByLiChun_eq (g0 : 0 ≤ l.yearGanIndexByLiChun) (g1 : l.yearGanIndexByLiChun < 10) (z0 : 0 ≤ l.yearZhiIndexByLiChun) (z1 : l.yearZhiIndexByLiChun < 12) :
    Gen.FnS.calendar_Lunar_GetYearXunKongByLiChun l = .ok (Model.EightChar.xunKong l.yearGanIndexByLiChun l.yearZhiIndexByLiChun) :=
  xunTable_read _ rfl _ _ g0 g1 z0 z1

theorem lunarGetYearXunExact_eq (g0 : 0 ≤ l.yearGanIndexExact) (g1 : l.yearGanIndexExact < 10) (z0 : 0 ≤ l.yearZhiIndexExact) (z1 : l.yearZhiIndexExact < 12) :
    Gen.FnS.calendar_Lunar_GetYearXunExact l = .ok (Model.EightChar.xun l.yearGanIndexExact l.yearZhiIndexExact) :=
  xunTable_read _ rfl _ _ g0 g1 z0 z1

theorem lunarGetYearXunKongExact_eq (g0 : 0 ≤ l.yearGanIndexExact) (g1 : l.yearGanIndexExact < 10) (z0 : 0 ≤ l.yearZhiIndexExact) (z1 : l.yearZhiIndexExact < 12) :
    Gen.FnS.calendar_Lunar_GetYearXunKongExact l = .ok (Model.EightChar.xunKong l.yearGanIndexExact l.yearZhiIndexExact) :=
  xunTable_read _ rfl _ _ g0 g1 z0 z1

theorem lunarGetMonthXun_eq (g0 : 0 ≤ l.monthGanIndex) (g1 : l.monthGanIndex < 10) (z0 : 0 ≤ l.monthZhiIndex) (z1 : l.monthZhiIndex < 12) :
    Gen.FnS.calendar_Lunar_GetMonthXun l = .ok (Model.EightChar.xun l.monthGanIndex l.monthZhiIndex) :=
  xunTable_read _ rfl _ _ g0 g1 z0 z1

theorem lunarGetMonthXunKong_eq (g0 : 0 ≤ l.monthGanIndex) (g1 : l.monthGanIndex < 10) (z0 : 0 ≤ l.monthZhiIndex) (z1 : l.monthZhiIndex < 12) :
    Gen.FnS.calendar_Lunar_GetMonthXunKong l = .ok (Model.EightChar.xunKong l.monthGanIndex l.monthZhiIndex) :=
  xunTable_read _ rfl _ _ g0 g1 z0 z1

theorem lunarGetMonthXunExact_eq (g0 : 0 ≤ l.monthGanIndexExact) (g1 : l.monthGanIndexExact < 10) (z0 : 0 ≤ l.monthZhiIndexExact) (z1 : l.monthZhiIndexExact < 12) :
    Gen.FnS.calendar_Lunar_GetMonthXunExact l = .ok (Model.EightChar.xun l.monthGanIndexExact l.monthZhiIndexExact) :=
  xunTable_read _ rfl _ _ g0 g1 z0 z1

theorem lunarGetMonthXunKongExact_eq (g0 : 0 ≤ l.monthGanIndexExact) (g1 : l.monthGanIndexExact < 10) (z0 : 0 ≤ l.monthZhiIndexExact) (z1 : l.monthZhiIndexExact < 12) :
    Gen.FnS.calendar_Lunar_GetMonthXunKongExact l = .ok (Model.EightChar.xunKong l.monthGanIndexExact l.monthZhiIndexExact) :=
  xunTable_read _ rfl _ _ g0 g1 z0 z1

theorem lunarGetDayXun_eq (g0 : 0 ≤ l.dayGanIndex) (g1 : l.dayGanIndex < 10) (z0 : 0 ≤ l.dayZhiIndex) (z1 : l.dayZhiIndex < 12) :
    Gen.FnS.calendar_Lunar_GetDayXun l = .ok (Model.EightChar.xun l.dayGanIndex l.dayZhiIndex) :=
  xunTable_read _ rfl _ _ g0 g1 z0 z1

theorem lunarGetDayXunKong_eq (g0 : 0 ≤ l.dayGanIndex) (g1 : l.dayGanIndex < 10) (z0 : 0 ≤ l.dayZhiIndex) (z1 : l.dayZhiIndex < 12) :
    Gen.FnS.calendar_Lunar_GetDayXunKong l = .ok (Model.EightChar.xunKong l.dayGanIndex l.dayZhiIndex) :=
  xunTable_read _ rfl _ _ g0 g1 z0 z1

theorem lunarGetDayXunExact_eq (g0 : 0 ≤ l.dayGanIndexExact) (g1 : l.dayGanIndexExact < 10) (z0 : 0 ≤ l.dayZhiIndexExact) (z1 : l.dayZhiIndexExact < 12) :
    Gen.FnS.calendar_Lunar_GetDayXunExact l = .ok (Model.EightChar.xun l.dayGanIndexExact l.dayZhiIndexExact) :=
  xunTable_read _ rfl _ _ g0 g1 z0 z1

theorem lunarGetDayXunKongExact_eq (g0 : 0 ≤ l.dayGanIndexExact) (g1 : l.dayGanIndexExact < 10) (z0 : 0 ≤ l.dayZhiIndexExact) (z1 : l.dayZhiIndexExact < 12) :
    Gen.FnS.calendar_Lunar_GetDayXunKongExact l = .ok (Model.EightChar.xunKong l.dayGanIndexExact l.dayZhiIndexExact) :=
  xunTable_read _ rfl _ _ g0 g1 z0 z1

theorem lunarGetDayXunExact2_eq (g0 : 0 ≤ l.dayGanIndexExact2) (g1 : l.dayGanIndexExact2 < 10) (z0 : 0 ≤ l.dayZhiIndexExact2) (z1 : l.dayZhiIndexExact2 < 12) :
    Gen.FnS.calendar_Lunar_GetDayXunExact2 l = .ok (Model.EightChar.xun l.dayGanIndexExact2 l.dayZhiIndexExact2) :=
  xunTable_read _ rfl _ _ g0 g1 z0 z1

theorem lunarGetDayXunKongExact2_eq (g0 : 0 ≤ l.dayGanIndexExact2) (g1 : l.dayGanIndexExact2 < 10) (z0 : 0 ≤ l.dayZhiIndexExact2) (z1 : l.dayZhiIndexExact2 < 12) :
    Gen.FnS.calendar_Lunar_GetDayXunKongExact2 l = .ok (Model.EightChar.xunKong l.dayGanIndexExact2 l.dayZhiIndexExact2) :=
  xunTable_read _ rfl _ _ g0 g1 z0 z1

theorem lunarGetTimeXun_eq (g0 : 0 ≤ l.timeGanIndex) (g1 : l.timeGanIndex < 10) (z0 : 0 ≤ l.timeZhiIndex) (z1 : l.timeZhiIndex < 12) :
    Gen.FnS.calendar_Lunar_GetTimeXun l = .ok (Model.EightChar.xun l.timeGanIndex l.timeZhiIndex) :=
  xunTable_read _ rfl _ _ g0 g1 z0 z1

theorem lunarGetTimeXunKong_eq (g0 : 0 ≤ l.timeGanIndex) (g1 : l.timeGanIndex < 10) (z0 : 0 ≤ l.timeZhiIndex) (z1 : l.timeZhiIndex < 12) :
    Gen.FnS.calendar_Lunar_GetTimeXunKong l = .ok (Model.EightChar.xunKong l.timeGanIndex l.timeZhiIndex) :=
  xunTable_read _ rfl _ _ g0 g1 z0 z1

end

section Axioms
#print axioms lunarGetYearNaYin_eq
#print axioms lunarGetMonthNaYin_eq
#print axioms lunarGetDayNaYin_eq
#print axioms lunarGetTimeNaYin_eq
#print axioms lunarGetZhiXing_eq
#print axioms lunarGetZhiXing_panic
#print axioms lunarGetDayTianShen_eq
#print axioms lunarGetDayTianShenType_eq
#print axioms lunarGetDayTianShenLuck_eq
#print axioms lunarGetTimeTianShen_eq
#print axioms lunarGetTimeTianShenType_eq
#print axioms lunarGetTimeTianShenLuck_eq
#print axioms lunarGetXiu_eq
#print axioms lunarGetXiu_panic
#print axioms lunarGetXiuLuck_eq
#print axioms lunarGetXiuSong_eq
#print axioms lunarGetZheng_eq
#print axioms lunarGetAnimal_eq
#print axioms lunarGetGong_eq
#print axioms lunarGetShou_eq
#print axioms lunarGetYueXiang_eq
#print axioms lunarGetYueXiang_panic
#print axioms lunarGetLiuYao_eq
#print axioms lunarGetLiuYao_eq'
#print axioms lunarGetLiuYao_panic
#print axioms lunarGetSeason_eq
#print axioms lunarGetSeason_panic
#print axioms lunarGetDayLu_eq
#print axioms lunarGetMonthPositionTai_eq
#print axioms lunarGetMonthPositionTai_panic
#print axioms getJiaZiIndex_eq
#print axioms lunarGetDayPositionTai_eq
#print axioms lunarGetDayPositionTai_panic
#print axioms lunarGetDayPositionTai_eq'
#print axioms lunarGetDayPositionTai_panic'
#print axioms lunarGetMonthPositionTaiSuiBySect_eq
#print axioms lunarGetMonthPositionTaiSui_eq
#print axioms lunarGetMonthPositionTaiSui_eq'
#print axioms lunarGetDayPositionTaiSuiBySect_eq
#print axioms lunarGetDayPositionTaiSui_eq
#print axioms lunarGetDayPositionTaiSui_emptyPillar
#print axioms getXunIndex_pillar
#print axioms getXun_pillar
#print axioms getXunKong_pillar
#print axioms lunarGetYearXun_eq
#print axioms lunarGetYearXunKong_eq
#print axioms lunarGetYearXunByLiChun_eq
#print axioms lunarGetYearXunKongByLiChun_eq
#print axioms lunarGetYearXunExact_eq
#print axioms lunarGetYearXunKongExact_eq
#print axioms lunarGetMonthXun_eq
#print axioms lunarGetMonthXunKong_eq
#print axioms lunarGetMonthXunExact_eq
#print axioms lunarGetMonthXunKongExact_eq
#print axioms lunarGetDayXun_eq
#print axioms lunarGetDayXunKong_eq
#print axioms lunarGetDayXunExact_eq
#print axioms lunarGetDayXunKongExact_eq
#print axioms lunarGetDayXunExact2_eq
#print axioms lunarGetDayXunKongExact2_eq
#print axioms lunarGetTimeXun_eq
#print axioms lunarGetTimeXunKong_eq
end Axioms
end FnSEq
