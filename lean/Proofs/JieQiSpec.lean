/-
Proofs.JieQiSpec — the solar-term lookups of `Model.JieQi`, and the facts about a well-formed term
table (`termsOk`) and about stamps in the printable range (`stampValid`) that the other
specifications of term-dependent features build on.
-/
import Model.JieQi
import Model.AstroWF
import Proofs.FmtOrder
import Proofs.CivilArith
namespace Model
open Gen.Tables

theorem names_len : Gen.Tables.calendar.JIE_QI_IN_USE.length = 31 ∧ Gen.Tables.calendar.JIE_QI.length = 24 := by
  decide

theorem names_nodup : Gen.Tables.calendar.JIE_QI_IN_USE.Nodup := by
  decide

theorem names_canonical : (List.range 31).all (fun i =>
    (Gen.Tables.calendar.JIE_QI_IN_USE.getD i "" |> convertJieQi) == Gen.Tables.calendar.JIE_QI.getD ((i + 23) % 24) "?") = true := by
  decide

theorem filters_parity : (List.range 31).all (fun i =>
    (jieConditions.contains (convertJieQi (Gen.Tables.calendar.JIE_QI_IN_USE.getD i "")) == (i % 2 == 0)) &&
    (qiConditions.contains (convertJieQi (Gen.Tables.calendar.JIE_QI_IN_USE.getD i "")) == (i % 2 == 1))) = true := by
  decide

theorem jieQi_nodup : calendar.JIE_QI.Nodup := by
  decide

theorem findIdx?_getElem_of_nodup {l : List String} (hn : l.Nodup) (i : Nat) (h : i < l.length) :
    l.findIdx? (· == l[i]) = some i :=
  List.findIdx?_eq_some_iff_getElem.2 ⟨h, beq_self_eq_true _, fun j hj hb =>
    absurd ((List.getElem_inj hn).1 (eq_of_beq hb)) (by omega)⟩

theorem jie_qi_partition : Gen.Tables.calendar.JIE_QI.all (fun n => jieQiIsJie n != jieQiIsQi n) = true := by
  rw [List.all_eq_true]
  intro n hn
  obtain ⟨i, hi, rfl⟩ := List.mem_iff_getElem.1 hn
  simp only [jieQiIsJie, jieQiIsQi, findIdx?_getElem_of_nodup jieQi_nodup i hi]
  rcases Nat.mod_two_eq_zero_or_one i with h | h <;> simp [h]

theorem getD_eq_getElem' {α : Type} (l : List α) (d : α) (i : Nat) (h : i < l.length) : l.getD i d = l[i] := by
  simp [List.getD_eq_getElem?_getD, List.getElem?_eq_getElem h]

theorem termIndex_go_not_mem (name : String) : ∀ (rest : List String) (i : Nat) (acc : Option Nat),
    name ∉ rest → termIndex.go name rest i acc = acc
  | [], _, _, _ => rfl
  | x :: xs, i, acc, h => by
    rw [List.mem_cons, not_or] at h
    rw [termIndex.go, if_neg (fun hx => h.1 (eq_of_beq hx).symm), termIndex_go_not_mem name xs _ _ h.2]

/-- the map lookup keeps the last position of a key; in a list without repetitions that is its position -/
theorem termIndex_go_nodup : ∀ (rest : List String) (i j : Nat) (acc : Option Nat) (h : j < rest.length),
    rest.Nodup → termIndex.go rest[j] rest i acc = some (i + j)
  | x :: xs, i, 0, acc, _, hn => by
    rw [List.getElem_cons_zero, termIndex.go, if_pos (beq_self_eq_true x),
      termIndex_go_not_mem x xs _ _ (List.nodup_cons.1 hn).1, Nat.add_zero]
  | x :: xs, i, j + 1, acc, h, hn => by
    rw [List.getElem_cons_succ, termIndex.go, termIndex_go_nodup xs (i + 1) j _ _ (List.nodup_cons.1 hn).2,
      Nat.add_right_comm, Nat.add_assoc]

theorem termIndex_name (i : Nat) (h : i < 31) : termIndex (calendar.JIE_QI_IN_USE.getD i "") = some i := by
  rw [getD_eq_getElem' _ _ i (names_len.1 ▸ h)]
  exact (termIndex_go_nodup _ 0 i none _ names_nodup).trans (by rw [Nat.zero_add])

theorem termByName_at (ts : List Solar) (i : Nat) (h : i < 31 := by omega) :
    termByName ts (calendar.JIE_QI_IN_USE.getD i "") = ts.getD i nilSolar := by
  simp only [termByName, termIndex_name i h]

theorem termByName_dongZhi (ts : List Solar) : termByName ts "冬至" = ts.getD 1 nilSolar := termByName_at ts 1
theorem termByName_liChun (ts : List Solar) : termByName ts "立春" = ts.getD 4 nilSolar := termByName_at ts 4
theorem termByName_qingMing (ts : List Solar) : termByName ts "清明" = ts.getD 8 nilSolar := termByName_at ts 8
theorem termByName_xiaZhi (ts : List Solar) : termByName ts "夏至" = ts.getD 13 nilSolar := termByName_at ts 13
theorem termByName_liQiu (ts : List Solar) : termByName ts "立秋" = ts.getD 16 nilSolar := termByName_at ts 16
theorem termByName_dongZhi2 (ts : List Solar) : termByName ts "DONG_ZHI" = ts.getD 25 nilSolar := termByName_at ts 25

abbrev entryAt (ts : List Solar) (j : Nat) : String × Solar :=
  (calendar.JIE_QI_IN_USE.getD j "", ts.getD j nilSolar)

theorem entries_length (ts : List Solar) : (termEntries ts).length = 31 := by
  rw [termEntries, List.length_map, names_len.1]

theorem entries_get (ts : List Solar) (j : Nat) (h : j < (termEntries ts).length) :
    (termEntries ts)[j] = entryAt ts j := by
  have hj : j < 31 := entries_length ts ▸ h
  have h1 : j < calendar.JIE_QI_IN_USE.length := names_len.1 ▸ hj
  simp only [termEntries, List.getElem_map, entryAt, ← getD_eq_getElem' _ "" j h1, termByName_at ts j hj]

theorem termEntries_eq (ts : List Solar) (h : ts.length = 31) :
    termEntries ts = Gen.Tables.calendar.JIE_QI_IN_USE.zip ts := by
  apply List.ext_getElem
  · rw [entries_length, List.length_zip, names_len.1, h]; rfl
  · intro i h1 h2
    have hi : i < 31 := entries_length ts ▸ h1
    rw [entries_get, List.getElem_zip, entryAt, getD_eq_getElem' _ _ i (names_len.1 ▸ hi),
      getD_eq_getElem' _ _ i (h ▸ hi)]

def dayKey (s : Solar) : Int := (s.year * 100 + s.month) * 100 + s.day

theorem stampValid_parts (a : Solar) (ha : stampValid a = true) :
    a.valid = true ∧ 0 ≤ a.year ∧ a.year ≤ 9999 := by
  unfold stampValid at ha
  simp only [Bool.and_eq_true, decide_eq_true_eq] at ha
  exact ⟨ha.1.1, ha.1.2, ha.2⟩

theorem stampValid_bounds (a : Solar) (ha : stampValid a = true) :
    0 ≤ a.year ∧ a.year ≤ 9999 ∧ 1 ≤ a.month ∧ a.month ≤ 12 ∧ 1 ≤ a.day ∧ a.day ≤ 31 ∧
    0 ≤ a.hour ∧ a.hour ≤ 23 ∧ 0 ≤ a.minute ∧ a.minute ≤ 59 ∧ 0 ≤ a.second ∧ a.second ≤ 59 := by
  obtain ⟨hv, h0, h1⟩ := stampValid_parts a ha
  have := valid_md_bounds a hv
  have := hms_bounds a hv
  omega

theorem stampValid_inWidth (a : Solar) (ha : stampValid a = true) : InWidth a := by
  have := stampValid_bounds a ha
  unfold InWidth
  omega

theorem dayKey_lt_iff_jdn (a b : Solar) (ha : a.valid = true) (hb : b.valid = true) :
    dayKey a < dayKey b ↔ a.jdn < b.jdn := by
  have h := jdn_lt_iff_lex_all a.year a.month a.day b.year b.month b.day (valid_parts a ha).1 (valid_parts b hb).1
  have ba := valid_md_bounds a ha
  have bb := valid_md_bounds b hb
  unfold Solar.jdn dayKey
  rw [h]
  constructor <;> intro h' <;> omega

theorem stampValid_iff_jdn (r : Solar) (hv : r.valid = true) :
    stampValid r = true ↔ jdn 0 1 1 ≤ r.jdn ∧ r.jdn ≤ jdn 9999 12 31 := by
  have b := valid_md_bounds r hv
  have lo := jdn_lt_iff_lex_all r.year r.month r.day 0 1 1 (valid_parts r hv).1 (by decide)
  have hi := jdn_lt_iff_lex_all 9999 12 31 r.year r.month r.day (by decide) (valid_parts r hv).1
  unfold stampValid Solar.jdn
  simp only [hv, Bool.true_and, Bool.and_eq_true, decide_eq_true_eq]
  omega

/-! ## printed order = key order = chronological order -/

theorem cmp_eq_iff (x y : Int) : (compare x y == Ordering.eq) = decide (x = y) := by
  rw [Bool.eq_iff_iff, beq_iff_eq, decide_eq_true_iff]
  exact Int.compare_eq_eq

theorem key_eq_key14 (a : Solar) : a.key = key14 a := rfl

theorem strLt_ymdhms_iff (a b : Solar) (ha : stampValid a = true) (hb : stampValid b = true) :
    strLt a.toYmdHms b.toYmdHms = true ↔ a.key < b.key := by
  rw [strLt_of_cmp (cmp_toYmdHms a b (stampValid_inWidth a ha) (stampValid_inWidth b hb)), decide_eq_true_iff]
  rfl

theorem key_split (a : Solar) : a.key = dayKey a * 1000000 + (a.hour * 10000 + a.minute * 100 + a.second) := by
  unfold Solar.key dayKey
  omega

/-- the key is (day key, time of day) and the stamp is (day number, second of the day), both read lexicographically -/
theorem key_lt_iff_stamp (a b : Solar) (ha : stampValid a = true) (hb : stampValid b = true) :
    a.key < b.key ↔ a.stamp < b.stamp := by
  have va := (stampValid_parts a ha).1
  have vb := (stampValid_parts b hb).1
  have h1 := dayKey_lt_iff_jdn a b va vb
  have h2 := dayKey_lt_iff_jdn b a vb va
  have ba := hms_bounds a va
  have bb := hms_bounds b vb
  rw [key_split, key_split]
  unfold Solar.stamp Solar.secOfDay
  generalize dayKey a = ka at *
  generalize dayKey b = kb at *
  rcases Int.lt_trichotomy a.jdn b.jdn with h | h | h
  · have := h1.2 h; omega
  · have : ka = kb := by omega
    omega
  · have := h2.2 h; omega

/-- the printed key `pk` is ordered like the numeric key `K` on the stamps satisfying `V` -/
def KeyOrd (pk : Solar → List Char) (K : Solar → Int) (V : Solar → Prop) : Prop :=
  ∀ a b, V a → V b → cmpChars (pk a) (pk b) = compare (K a) (K b)

theorem KeyOrd.lt {pk K V} (h : KeyOrd pk K V) (a b : Solar) (ha : V a) (hb : V b) :
    strLt (pk a) (pk b) = decide (K a < K b) := strLt_of_cmp (h a b ha hb)

theorem KeyOrd.gt {pk K V} (h : KeyOrd pk K V) (a b : Solar) (ha : V a) (hb : V b) :
    strGt (pk a) (pk b) = decide (K b < K a) := strGt_of_cmp (h a b ha hb)

theorem KeyOrd.le {pk K V} (h : KeyOrd pk K V) (a b : Solar) (ha : V a) (hb : V b) :
    strLe (pk a) (pk b) = decide (K a ≤ K b) := strLe_of_cmp (h a b ha hb)

theorem KeyOrd.ge {pk K V} (h : KeyOrd pk K V) (a b : Solar) (ha : V a) (hb : V b) :
    strGe (pk a) (pk b) = decide (K b ≤ K a) := strGe_of_cmp (h a b ha hb)

theorem KeyOrd.eq {pk K V} (h : KeyOrd pk K V) (a b : Solar) (ha : V a) (hb : V b) :
    (cmpChars (pk a) (pk b) == Ordering.eq) = decide (K a = K b) := by
  rw [h a b ha hb, cmp_eq_iff]

theorem keyOrd_hms : KeyOrd Solar.toYmdHms Solar.key (fun s => stampValid s = true) :=
  fun a b ha hb => cmp_toYmdHms a b (stampValid_inWidth a ha) (stampValid_inWidth b hb)

theorem keyOrd_ymd : KeyOrd Solar.toYmd dayKey (fun s => stampValid s = true) :=
  fun a b ha hb => cmp_toYmd a b (stampValid_inWidth a ha) (stampValid_inWidth b hb)

theorem keyOrd_jdn : KeyOrd Solar.toYmd Solar.jdn (fun s => stampValid s = true) := by
  intro a b ha hb
  have va := (stampValid_parts a ha).1
  have vb := (stampValid_parts b hb).1
  have h1 := dayKey_lt_iff_jdn a b va vb
  have h2 := dayKey_lt_iff_jdn b a vb va
  rw [keyOrd_ymd a b ha hb]
  rcases Int.lt_trichotomy a.jdn b.jdn with h | h | h
  · rw [Int.compare_eq_lt.2 h, Int.compare_eq_lt.2 (h1.2 h)]
  · rw [Int.compare_eq_eq.2 h, Int.compare_eq_eq.2 (by omega)]
  · rw [Int.compare_eq_gt.2 h, Int.compare_eq_gt.2 (h2.2 h)]

/-- the entries that pass the filter, in table order (`filters = []` passes everything) -/
def selected (filters : List String) (ts : List Solar) : List (String × Solar) :=
  (termEntries ts).filter (fun e => filters.isEmpty || filters.contains (convertJieQi e.1))

/-- the filter predicate of `selected` -/
def passes (filters : List String) (e : String × Solar) : Bool :=
  filters.isEmpty || filters.contains (convertJieQi e.1)

def conv (e : String × Solar) : String × Solar := (convertJieQi e.1, e.2)

/-- one step of the loop of `getNearJieQi`, its string comparisons read through the numeric key -/
theorem nearScan_cons {pk K V} (ho : KeyOrd pk K V) (now : Solar) (hn : V now) (fw : Bool) (filters : List String)
    (k : String) (s : Solar) (rest : List (String × Solar)) (near : Option (String × Solar)) (hs : V s)
    (hnear : ∀ n, near = some n → V n.2) :
    nearScan pk (pk now) fw filters ((k, s) :: rest) near =
      if passes filters (k, s) &&
          (if fw then decide (K now < K s) && near.all (fun n => decide (K s < K n.2))
           else decide (K s ≤ K now) && near.all (fun n => decide (K n.2 < K s)))
      then nearScan pk (pk now) fw filters rest (some (convertJieQi k, s))
      else nearScan pk (pk now) fw filters rest near := by
  have hc : (!filters.isEmpty && !filters.contains (convertJieQi k)) = !passes filters (k, s) := by
    simp only [passes, Bool.not_or]
  rw [nearScan]
  simp only [hc, ho.le s now hs hn, ho.gt s now hs hn]
  cases passes filters (k, s)
  · simp
  · rcases near with _ | ⟨nk, ns⟩
    · cases fw <;> by_cases h : K s ≤ K now <;> simp [h, Int.not_lt.mpr, Int.not_le.mp]
    · have hv := hnear _ rfl
      cases fw <;> by_cases h : K s ≤ K now <;>
        simp [ho.gt s ns hs hv, ho.lt s ns hs hv, h, Int.not_lt.mpr, Int.not_le.mp]

/-- in key order a running answer is never beaten -/
theorem scan_fwd {pk K V} (ho : KeyOrd pk K V) (now : Solar) (hn : V now) (filters : List String)
    (es : List (String × Solar)) (near : Option (String × Solar)) (hall : ∀ e ∈ es, V e.2)
    (hp : es.Pairwise (fun a b => K a.2 ≤ K b.2)) (hnear : ∀ n, near = some n → V n.2 ∧ ∀ e ∈ es, K n.2 ≤ K e.2) :
    nearScan pk (pk now) true filters es near =
      near.or (((es.filter (passes filters)).find? (fun e => decide (K now < K e.2))).map conv) := by
  induction es generalizing near with
  | nil => simp [nearScan]
  | cons e rest ih =>
    obtain ⟨k, s⟩ := e
    rw [List.pairwise_cons] at hp
    simp only [List.forall_mem_cons] at hall hnear
    rw [nearScan_cons ho now hn true filters k s rest near hall.1 (fun n h => (hnear n h).1)]
    cases near with
    | some n =>
      rw [if_neg (by simp [Int.not_lt.mpr (hnear n rfl).2.1]),
        ih (some n) hall.2 hp.2 (fun m h => ⟨(hnear m h).1, (hnear m h).2.2⟩)]
      rfl
    | none =>
      have ih0 := ih none hall.2 hp.2 (fun _ h => nomatch h)
      have ih1 := ih (some (convertJieQi k, s)) hall.2 hp.2 (fun _ h => by cases h; exact ⟨hall.1, hp.1⟩)
      by_cases hc : passes filters (k, s) = true ∧ K now < K s
      · simp [hc, ih1, conv]
      · simp [hc, ih0]

/-- in strict key order every later candidate beats the running answer -/
theorem scan_bwd {pk K V} (ho : KeyOrd pk K V) (now : Solar) (hn : V now) (filters : List String)
    (es : List (String × Solar)) (near : Option (String × Solar)) (hall : ∀ e ∈ es, V e.2)
    (hp : es.Pairwise (fun a b => K a.2 < K b.2)) (hnear : ∀ n, near = some n → V n.2 ∧ ∀ e ∈ es, K n.2 < K e.2) :
    nearScan pk (pk now) false filters es near =
      ((((es.filter (passes filters)).filter (fun e => decide (K e.2 ≤ K now))).getLast?).map conv).or near := by
  induction es generalizing near with
  | nil => simp [nearScan]
  | cons e rest ih =>
    obtain ⟨k, s⟩ := e
    rw [List.pairwise_cons] at hp
    simp only [List.forall_mem_cons] at hall hnear
    have hb : near.all (fun n => decide (K n.2 < K s)) = true := by
      cases near with
      | none => rfl
      | some n => exact decide_eq_true (hnear n rfl).2.1
    have ihn := ih near hall.2 hp.2 (fun m h => ⟨(hnear m h).1, (hnear m h).2.2⟩)
    have ihs := ih (some (convertJieQi k, s)) hall.2 hp.2 (fun _ h => by cases h; exact ⟨hall.1, hp.1⟩)
    rw [nearScan_cons ho now hn false filters k s rest near hall.1 (fun n h => (hnear n h).1), hb, List.filter_cons]
    by_cases h1 : passes filters (k, s) = true
    · rw [if_pos h1, List.filter_cons]
      by_cases h2 : K s ≤ K now
      · rw [if_pos (by simp [h1, h2]), if_pos (by simp [h2]), ihs, List.getLast?_cons]
        cases (List.filter (fun e => decide (K e.2 ≤ K now)) (List.filter (passes filters) rest)).getLast? <;> rfl
      · rw [if_neg (by simp [h2]), if_neg (by simp [h2]), ihn]
    · rw [if_neg (by simp [h1]), if_neg h1, ihn]

theorem allAdj_getElem {α : Type} (f : α → α → Bool) :
    ∀ (l : List α), allAdj f l = true → ∀ i (h : i + 1 < l.length), f (l[i]'(by omega)) l[i + 1] = true
  | [], _, _, h | [_], _, _, h => by simp at h
  | a :: b :: r, hadj, i, h => by
    simp only [allAdj, Bool.and_eq_true] at hadj
    cases i with
    | zero => exact hadj.1
    | succ i => exact allAdj_getElem f (b :: r) hadj.2 i (by simpa using h)

section
variable {y : Int} {ts : List Solar} (hts : termsOk y ts = true)
include hts

/-- 1261440 s = 14.6 days; entry 1 is the 冬至 before the year, entry 4 its 立春 -/
theorem termsOk_facts :
    ts.length = 31 ∧ (∀ i, i < 31 → stampValid (ts.getD i nilSolar) = true) ∧
    (∀ i, i + 1 < 31 → (ts.getD i nilSolar).stamp + 1261440 ≤ (ts.getD (i + 1) nilSolar).stamp) ∧
    (ts.getD 1 nilSolar).month = 12 ∧ (ts.getD 4 nilSolar).year = y := by
  unfold termsOk at hts
  simp only [Bool.and_eq_true, decide_eq_true_eq, List.all_eq_true] at hts
  obtain ⟨⟨⟨hl, hv⟩, hadj⟩, hlast⟩ := hts
  rw [List.getElem?_eq_getElem (by omega), List.getElem?_eq_getElem (by omega)] at hlast
  simp only [Bool.and_eq_true, beq_iff_eq] at hlast
  refine ⟨hl, fun i hi => ?_, fun i hi => ?_, ?_, ?_⟩
  · rw [getD_eq_getElem' _ _ i (by omega)]
    exact hv _ (List.getElem_mem _)
  · have := allAdj_getElem _ ts hadj i (by omega)
    simp only [Bool.and_eq_true, decide_eq_true_eq] at this
    rw [getD_eq_getElem' _ _ i (by omega), getD_eq_getElem' _ _ (i + 1) (by omega)]
    omega
  · rw [getD_eq_getElem' _ _ 1 (by omega)]
    exact hlast.1.2
  · rw [getD_eq_getElem' _ _ 4 (by omega)]
    exact hlast.2

theorem term_liChun_year : (ts.getD 4 nilSolar).year = y :=
  (termsOk_facts hts).2.2.2.2

theorem term_valid (i : Nat) (hi : i < 31 := by omega) :
    (ts.getD i nilSolar).valid = true :=
  (stampValid_parts _ ((termsOk_facts hts).2.1 i hi)).1

theorem term_jdn_range (i : Nat) (hi : i < 31 := by omega) :
    jdn 0 1 1 ≤ (ts.getD i nilSolar).jdn ∧ (ts.getD i nilSolar).jdn ≤ jdn 9999 12 31 :=
  (stampValid_iff_jdn _ (term_valid hts i hi)).1 ((termsOk_facts hts).2.1 i hi)

theorem term_stamp_le (i j : Nat) (hij : i ≤ j := by omega) (hj : j < 31 := by omega) :
    (ts.getD i nilSolar).stamp + 1261440 * ((j - i : Nat) : Int) ≤ (ts.getD j nilSolar).stamp := by
  induction j with
  | zero =>
    have : i = 0 := by omega
    subst this
    simp
  | succ j ih =>
    rcases Nat.eq_or_lt_of_le hij with rfl | h
    · simp
    · have := ih (by omega) (by omega)
      have := (termsOk_facts hts).2.2.1 j (by omega)
      omega

/-- the same in day numbers: at least ⌈(1261440·k − 86399)/86400⌉ days, i.e. 14 for k = 1, 58 for k = 4, 175 for k = 12 -/
theorem term_days (i j : Nat) (hij : i ≤ j := by omega) (hj : j < 31 := by omega) :
    (ts.getD i nilSolar).jdn * 86400 + 1261440 * ((j - i : Nat) : Int) ≤ (ts.getD j nilSolar).jdn * 86400 + 86399 := by
  have := term_stamp_le hts i j hij hj
  have := secOfDay_bounds _ (term_valid hts i)
  have := secOfDay_bounds _ (term_valid hts j hj)
  unfold Solar.stamp at *
  omega

theorem term_lt (i j : Nat) (hij : i < j) (hj : j < 31) :
    (ts.getD i nilSolar).key < (ts.getD j nilSolar).key ∧ dayKey (ts.getD i nilSolar) < dayKey (ts.getD j nilSolar) := by
  have hv := (termsOk_facts hts).2.1
  have hs := term_stamp_le hts i j (by omega) hj
  have hd := term_days hts i j (by omega) hj
  exact ⟨(key_lt_iff_stamp _ _ (hv i (by omega)) (hv j hj)).2 (by omega),
    (dayKey_lt_iff_jdn _ _ (term_valid hts i) (term_valid hts j hj)).2 (by omega)⟩

theorem term_le (i j : Nat) (hij : i ≤ j) (hj : j < 31) :
    (ts.getD i nilSolar).key ≤ (ts.getD j nilSolar).key ∧ dayKey (ts.getD i nilSolar) ≤ dayKey (ts.getD j nilSolar) := by
  rcases Nat.eq_or_lt_of_le hij with rfl | h
  · exact ⟨Int.le_refl _, Int.le_refl _⟩
  · have := term_lt hts i j h hj
    omega

theorem entries_facts :
    (∀ e ∈ termEntries ts, stampValid e.2 = true) ∧
    (termEntries ts).Pairwise (fun a b => a.2.key < b.2.key) ∧
    (termEntries ts).Pairwise (fun a b => dayKey a.2 < dayKey b.2) := by
  refine ⟨fun e he => ?_, List.pairwise_iff_getElem.2 fun i j hi hj hij => ?_,
    List.pairwise_iff_getElem.2 fun i j hi hj hij => ?_⟩
  · obtain ⟨j, hj, rfl⟩ := List.mem_iff_getElem.1 he
    rw [entries_get]
    exact (termsOk_facts hts).2.1 j (entries_length ts ▸ hj)
  · rw [entries_get, entries_get]
    exact (term_lt hts i j hij (entries_length ts ▸ hj)).1
  · rw [entries_get, entries_get]
    exact (term_lt hts i j hij (entries_length ts ▸ hj)).2

end

/-- next term = the EARLIEST selected entry STRICTLY AFTER now -/
theorem near_forward (y : Int) (l : Lunar) (filters : List String) (hts : termsOk y l.terms = true) (hnow : stampValid l.solar = true) :
    l.nearJieQi true filters false =
      ((selected filters l.terms).find? (fun e => decide (l.solar.key < e.2.key))).map (fun e => (convertJieQi e.1, e.2)) :=
  scan_fwd keyOrd_hms l.solar hnow filters _ none (entries_facts hts).1 ((entries_facts hts).2.1.imp Int.le_of_lt)
    (fun _ h => nomatch h)

/-- previous term = the LATEST selected entry AT OR BEFORE now -/
theorem near_backward (y : Int) (l : Lunar) (filters : List String) (hts : termsOk y l.terms = true) (hnow : stampValid l.solar = true) :
    l.nearJieQi false filters false =
      (((selected filters l.terms).filter (fun e => decide (e.2.key ≤ l.solar.key))).getLast?).map (fun e => (convertJieQi e.1, e.2)) :=
  (scan_bwd keyOrd_hms l.solar hnow filters _ none (entries_facts hts).1 (entries_facts hts).2.1
    (fun _ h => nomatch h)).trans Option.or_none

theorem near_forward_day (y : Int) (l : Lunar) (filters : List String) (hts : termsOk y l.terms = true) (hnow : stampValid l.solar = true) :
    l.nearJieQi true filters true =
      ((selected filters l.terms).find? (fun e => decide (dayKey l.solar < dayKey e.2))).map (fun e => (convertJieQi e.1, e.2)) :=
  scan_fwd keyOrd_ymd l.solar hnow filters _ none (entries_facts hts).1 ((entries_facts hts).2.2.imp Int.le_of_lt)
    (fun _ h => nomatch h)

theorem near_backward_day (y : Int) (l : Lunar) (filters : List String) (hts : termsOk y l.terms = true) (hnow : stampValid l.solar = true) :
    l.nearJieQi false filters true =
      (((selected filters l.terms).filter (fun e => decide (dayKey e.2 ≤ dayKey l.solar))).getLast?).map (fun e => (convertJieQi e.1, e.2)) :=
  (scan_bwd keyOrd_ymd l.solar hnow filters _ none (entries_facts hts).1 (entries_facts hts).2.2
    (fun _ h => nomatch h)).trans Option.or_none

theorem sameDay_iff (a b : Solar) : sameDay a b = true ↔ a.year = b.year ∧ a.month = b.month ∧ a.day = b.day := by
  unfold sameDay
  simp only [Bool.and_eq_true, beq_iff_eq, and_assoc]

/-- two different table entries never fall on the same civil day (gap ≥ 14.6 days) -/
theorem terms_distinct_days (y : Int) (ts : List Solar) (h : termsOk y ts = true) (i j : Nat) (hi : i < j) (hj : j < 31) :
    ¬ sameDay (ts.getD i nilSolar) (ts.getD j nilSolar) = true := by
  have := (term_lt h i j hi hj).2
  rw [sameDay_iff]
  intro ⟨e1, e2, e3⟩
  unfold dayKey at this
  rw [e1, e2, e3] at this
  omega

theorem find?_unique {α : Type} (p : α → Bool) (l : List α) (x : α) (hx : x ∈ l) (hp : p x = true)
    (hu : ∀ y ∈ l, p y = true → y = x) : l.find? p = some x := by
  cases hf : l.find? p with
  | none =>
    rw [List.find?_eq_none] at hf
    exact absurd hp (hf x hx)
  | some y =>
    rw [hu y (List.mem_of_find?_eq_some hf) (List.find?_some hf)]

/-- `L` = the entries with index in `I`; at most one entry falls on a given day, so the first match is the match -/
theorem spec_core (y : Int) (ts : List Solar) (hts : termsOk y ts = true) (solar : Solar)
    (L : List (String × Solar)) (I : Nat → Prop) (hL : ∀ e, e ∈ L ↔ ∃ j, j < 31 ∧ I j ∧ e = entryAt ts j) :
    (∀ i, i < 31 → I i → sameDay (ts.getD i nilSolar) solar = true →
      L.find? (fun e => sameDay e.2 solar) = some (entryAt ts i)) ∧
    ((∀ i, i < 31 → I i → sameDay (ts.getD i nilSolar) solar = false) →
      L.find? (fun e => sameDay e.2 solar) = none) := by
  constructor
  · intro i hi hI hs
    apply find?_unique _ _ _ ((hL _).2 ⟨i, hi, hI, rfl⟩) hs
    intro e he hpe
    obtain ⟨j, hj, _, rfl⟩ := (hL e).1 he
    have : dayKey (ts.getD i nilSolar) = dayKey (ts.getD j nilSolar) := by
      rw [sameDay_iff] at hs hpe
      unfold dayKey
      simp only at hpe
      omega
    rcases Nat.lt_trichotomy i j with h | rfl | h
    · have := (term_lt hts i j h hj).2
      omega
    · rfl
    · have := (term_lt hts j i h hi).2
      omega
  · intro hall
    rw [List.find?_eq_none]
    intro e he
    obtain ⟨j, hj, hI, rfl⟩ := (hL e).1 he
    simp only [hall j hj hI]
    exact Bool.false_ne_true

theorem mem_everyOtherE (l : List (String × Solar)) (e : String × Solar) :
    e ∈ everyOtherE l ↔ ∃ k, l[2 * k]? = some e := by
  induction l using everyOtherE.induct with
  | case1 a b r ih =>
    rw [everyOtherE, List.mem_cons, ih]
    constructor
    · rintro (rfl | ⟨k, h⟩)
      · exact ⟨0, rfl⟩
      · exact ⟨k + 1, h⟩
    · rintro ⟨_ | k, h⟩
      · exact Or.inl (Option.some.inj h).symm
      · exact Or.inr ⟨k, h⟩
  | case2 a =>
    rw [everyOtherE, List.mem_singleton]
    constructor
    · rintro rfl
      exact ⟨0, rfl⟩
    · rintro ⟨_ | k, h⟩
      · exact (Option.some.inj h).symm
      · cases h
  | case3 => simp [everyOtherE]

theorem entries_getElem? (ts : List Solar) (j : Nat) (e : String × Solar) :
    (termEntries ts)[j]? = some e ↔ j < 31 ∧ e = entryAt ts j := by
  simp only [List.getElem?_eq_some_iff, entries_get, entries_length]
  exact ⟨fun ⟨h, he⟩ => ⟨h, he.symm⟩, fun ⟨h, he⟩ => ⟨h, he.symm⟩⟩

/-- entries d, d+2, d+4, … of the table (d = 0: `GetJie`, d = 1: `GetQi`) -/
theorem mem_everyOther_entries (ts : List Solar) (d : Nat) (hd : d < 2) (e : String × Solar) :
    e ∈ everyOtherE ((termEntries ts).drop d) ↔ ∃ j, j < 31 ∧ j % 2 = d ∧ e = entryAt ts j := by
  simp only [mem_everyOtherE, List.getElem?_drop, entries_getElem?]
  constructor
  · rintro ⟨k, h, rfl⟩
    exact ⟨d + 2 * k, h, by omega, rfl⟩
  · rintro ⟨j, hj, hm, rfl⟩
    exact ⟨j / 2, by rw [show d + 2 * (j / 2) = j by omega]; exact ⟨hj, rfl⟩⟩

theorem jieQi_spec (y : Int) (l : Lunar) (hts : termsOk y l.terms = true) :
    (∀ i, i < 31 → sameDay (l.terms.getD i nilSolar) l.solar = true →
        l.jieQi = convertJieQi (Gen.Tables.calendar.JIE_QI_IN_USE.getD i "")) ∧
    ((∀ i, i < 31 → sameDay (l.terms.getD i nilSolar) l.solar = false) → l.jieQi = "") := by
  have core := spec_core y l.terms hts l.solar (termEntries l.terms) (fun _ => True) (fun e => by
    simp only [List.mem_iff_getElem?, entries_getElem?, true_and])
  exact ⟨fun i hi hs => by rw [Lunar.jieQi, core.1 i hi trivial hs],
    fun h => by rw [Lunar.jieQi, core.2 fun i hi _ => h i hi]⟩

theorem jie_spec (y : Int) (l : Lunar) (hts : termsOk y l.terms = true) :
    (∀ i, i < 31 → i % 2 = 0 → sameDay (l.terms.getD i nilSolar) l.solar = true → l.jie = convertJieQi (Gen.Tables.calendar.JIE_QI_IN_USE.getD i "")) ∧
    ((∀ i, i < 31 → i % 2 = 0 → sameDay (l.terms.getD i nilSolar) l.solar = false) → l.jie = "") := by
  have core := spec_core y l.terms hts l.solar (everyOtherE (termEntries l.terms)) _
    (mem_everyOther_entries l.terms 0 (by omega))
  exact ⟨fun i hi hI hs => by rw [Lunar.jie, core.1 i hi hI hs], fun h => by rw [Lunar.jie, core.2 h]⟩

theorem qi_spec (y : Int) (l : Lunar) (hts : termsOk y l.terms = true) :
    (∀ i, i < 31 → i % 2 = 1 → sameDay (l.terms.getD i nilSolar) l.solar = true → l.qi = convertJieQi (Gen.Tables.calendar.JIE_QI_IN_USE.getD i "")) ∧
    ((∀ i, i < 31 → i % 2 = 1 → sameDay (l.terms.getD i nilSolar) l.solar = false) → l.qi = "") := by
  have core := spec_core y l.terms hts l.solar _ _ (mem_everyOther_entries l.terms 1 (by omega))
  exact ⟨fun i hi hI hs => by rw [Lunar.qi, core.1 i hi hI hs], fun h => by rw [Lunar.qi, core.2 h]⟩

#print axioms names_len
#print axioms names_nodup
#print axioms names_canonical
#print axioms filters_parity
#print axioms jie_qi_partition
#print axioms termEntries_eq
#print axioms strLt_ymdhms_iff
#print axioms key_lt_iff_stamp
#print axioms near_forward
#print axioms near_backward
#print axioms near_forward_day
#print axioms near_backward_day
#print axioms terms_distinct_days
#print axioms jieQi_spec
#print axioms jie_spec
#print axioms qi_spec

end Model
