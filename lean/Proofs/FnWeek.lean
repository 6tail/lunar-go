/-
Proofs.FnWeek — the generated `SolarUtil.GetWeeksOfMonth` and the generated `SolarWeek` constructor, accessors,
`GetIndex`, `GetIndexInYear` and `GetFirstDay` equal the model. `mi_weekToM` / `mi_weekOfM` convert between the
generated and the model `SolarWeek`; helpers carry the prefix `mi_` (shared with Proofs.FnMiscBase).
-/
import Proofs.FnMiscBase

namespace FnEq
open Gen.Fn

/-- `-((-x)/7)` (the translator's exact integer ceiling) is `(x+6)/7`. -/
theorem mi_ceil7 (x : Int) : -((-x) / 7) = (x + 6) / 7 := by omega

theorem mi_wrap7 (x : Int) : (if x < 0 then x + 7 else x) = Model.wrap7 x := rfl

/-- Atom `a1` = `GetWeek(year, month, 1)` = `Model.week year month 1`. -/
theorem getWeeksOfMonth_eq (y m start : Int) (h1 : 1 ≤ m) (h12 : m ≤ 12) :
    Gen.Fn.SolarUtil_GetWeeksOfMonth (Model.week y m 1) y m start =
      .ok (Model.weeksOfMonth y m start) := by
  simp only [Gen.Fn.SolarUtil_GetWeeksOfMonth, getDaysOfMonth_eq y m h1 h12, Model.weeksOfMonth,
    Model.wrap7]
  by_cases h : Model.week y m 1 - start < 0 <;> simp [h, mi_ceil7]

/-- The same with the atom left abstract. -/
theorem getWeeksOfMonth_eq' (a1 y m start : Int) (h1 : 1 ≤ m) (h12 : m ≤ 12)
    (ha : a1 = Model.week y m 1) :
    Gen.Fn.SolarUtil_GetWeeksOfMonth a1 y m start = .ok (Model.weeksOfMonth y m start) := by
  subst ha; exact getWeeksOfMonth_eq y m start h1 h12

/-- Outside `1 ≤ m ≤ 12` the Go code panics on the `DAYS_OF_MONTH` index (the model is totalised). -/
theorem getWeeksOfMonth_panic (a1 y m start : Int) (h : m < 1 ∨ 12 < m) :
    Gen.Fn.SolarUtil_GetWeeksOfMonth a1 y m start = .error .panic := by
  simp only [Gen.Fn.SolarUtil_GetWeeksOfMonth, getDaysOfMonth_panic y m h]
  by_cases h : a1 - start < 0 <;> simp [h]

def mi_weekToM (w : Gen.Fn.SolarWeek) : Model.SolarWeek := ⟨w.year, w.month, w.day, w.start⟩
def mi_weekOfM (w : Model.SolarWeek) : Gen.Fn.SolarWeek := ⟨w.year, w.month, w.day, w.start⟩

@[simp] theorem mi_weekToM_ofM (w : Model.SolarWeek) : mi_weekToM (mi_weekOfM w) = w := rfl
@[simp] theorem mi_weekOfM_toM (w : Gen.Fn.SolarWeek) : mi_weekOfM (mi_weekToM w) = w := rfl

theorem mi_newSolarYmd_some (y m d : Int) (c : Model.Solar) (h : Model.newSolarYmd y m d = some c) :
    c = ⟨y, m, d, 0, 0, 0⟩ ∧ c.valid = true := by
  unfold Model.newSolarYmd Model.newSolar at h
  split at h
  · cases h; exact ⟨rfl, ‹_›⟩
  · cases h

theorem newSolarWeekFromYmd_eq (y m d start : Int) :
    Gen.Fn.calendar_NewSolarWeekFromYmd y m d start = .ok (mi_weekOfM ⟨y, m, d, start⟩) := rfl

@[simp] theorem solarWeekGetYear_eq (w : Gen.Fn.SolarWeek) :
    Gen.Fn.calendar_SolarWeek_GetYear w = .ok (mi_weekToM w).year := rfl
@[simp] theorem solarWeekGetMonth_eq (w : Gen.Fn.SolarWeek) :
    Gen.Fn.calendar_SolarWeek_GetMonth w = .ok (mi_weekToM w).month := rfl

theorem mi_getIndex (k : Int) (w : Gen.Fn.SolarWeek) :
    Gen.Fn.calendar_SolarWeek_GetIndex k w =
      .ok (((if w.year = 1582 ∧ w.month = 10 ∧ w.day > 4 then w.day - 10 else w.day) +
        Model.wrap7 (k - w.start) + 6) / 7) := by
  have hc : ((decide (1582 = w.year) && decide (10 = w.month)) && decide (w.day > 4)) =
      decide (w.year = 1582 ∧ w.month = 10 ∧ w.day > 4) := by
    simp only [eq_comm (a := (1582 : Int)), eq_comm (a := (10 : Int)), Bool.decide_and, Bool.and_assoc]
  simp only [Gen.Fn.calendar_SolarWeek_GetIndex, Model.wrap7, hc]
  by_cases h : k - w.start < 0 <;> by_cases c : w.year = 1582 ∧ w.month = 10 ∧ w.day > 4 <;>
    simp [h, c, mi_ceil7]

/-- Atom `a1` = `NewSolarFromYmd(year, month, 1).GetWeek()` = `Model.week year month 1`
(when that constructor does not panic, i.e. `1 ≤ month ≤ 12`; the generated function itself
does not see the panic, it is inside the atom). -/
theorem solarWeekGetIndex_eq (w : Gen.Fn.SolarWeek) :
    Gen.Fn.calendar_SolarWeek_GetIndex (Model.week w.year w.month 1) w =
      .ok (mi_weekToM w).index := mi_getIndex _ w

/-- Atom `a1` = `NewSolarFromYmd(year, 1, 1).GetWeek()` = `Model.week year 1 1`. For a month
`≥ 14` the Go code panics inside `GetDaysInYear` (table index), where the model is totalised. -/
theorem solarWeekGetIndexInYear_eq (w : Gen.Fn.SolarWeek) (hm : w.month ≤ 13) :
    Gen.Fn.calendar_SolarWeek_GetIndexInYear (Model.week w.year 1 1) w =
      (match (mi_weekToM w).indexInYear with | some r => .ok r | none => .error .panic) := by
  simp only [Gen.Fn.calendar_SolarWeek_GetIndexInYear, Model.SolarWeek.indexInYear, mi_weekToM,
    Model.wrap7, getDaysInYear_eq _ _ _ hm]
  cases Model.daysInYear w.year w.month w.day with
  | none => by_cases h : Model.week w.year 1 1 - w.start < 0 <;> simp [h]
  | some diy => by_cases h : Model.week w.year 1 1 - w.start < 0 <;> simp [h, mi_ceil7]

theorem solarWeekGetIndexInYear_panic (a1 : Int) (w : Gen.Fn.SolarWeek) (hm : 13 < w.month) :
    Gen.Fn.calendar_SolarWeek_GetIndexInYear a1 w = .error .panic := by
  simp only [Gen.Fn.calendar_SolarWeek_GetIndexInYear, getDaysInYear_panic _ _ _ hm]
  by_cases h : a1 - w.start < 0 <;> simp [h]

/-- Atom `a1` = `c.GetWeek()` for `c = NewSolarFromYmd(year, month, day)`, i.e.
`Model.week year month day`.  The `NextDay` call is the hypothesis `mi_NextDayOk`. -/
theorem solarWeekGetFirstDay_eq (fuel : Nat) (w : Gen.Fn.SolarWeek)
    (hnd : mi_NextDayOk fuel ⟨w.year, w.month, w.day, 0, 0, 0⟩
      (-(Model.wrap7 (Model.week w.year w.month w.day - w.start)))) :
    Gen.Fn.calendar_SolarWeek_GetFirstDay fuel (Model.week w.year w.month w.day) w =
      (match (mi_weekToM w).firstDay with | some r => .ok (ofM r) | none => .error .panic) := by
  simp only [Gen.Fn.calendar_SolarWeek_GetFirstDay, Model.SolarWeek.firstDay, mi_weekToM,
    newSolarFromYmd_eq]
  cases hc : Model.newSolarYmd w.year w.month w.day with
  | none => simp
  | some c =>
    obtain ⟨rfl, -⟩ := mi_newSolarYmd_some _ _ _ _ hc
    unfold mi_NextDayOk at hnd
    simp only [Model.wrap7, toM_mk] at hnd
    simp only [c1_ok_bind, ofM_mk, Model.Solar.week, Model.wrap7]
    by_cases h : Model.week w.year w.month w.day - w.start < 0
    · simp only [h, decide_true, ↓reduceIte] at hnd ⊢
      exact hnd
    · simp only [h, decide_false, Bool.false_eq_true, ↓reduceIte] at hnd ⊢
      exact hnd


end FnEq
