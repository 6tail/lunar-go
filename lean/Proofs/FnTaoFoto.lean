/-
Proofs.FnTaoFoto — Tao / Foto years and the Foto fasting-day predicates: generated code = model.
-/
import Proofs.FnMiscBase

namespace FnEq
open Gen.Fn

theorem taoGetYear_eq (t : Gen.Fn.Tao) (terms : List Model.Solar) :
    Gen.Fn.calendar_Tao_GetYear t = .ok (Model.taoYear (mi_lunarToM t.lunar terms)) := rfl

theorem fotoGetYear_eq (f : Gen.Fn.Foto) (terms : List Model.Solar) :
    Gen.Fn.calendar_Foto_GetYear f = .ok (Model.fotoYear (mi_lunarToM f.lunar terms)) := rfl

/-- with the package constants evaluated -/
theorem taoGetYear_val (t : Gen.Fn.Tao) : Gen.Fn.calendar_Tao_GetYear t = .ok (t.lunar.year + 2697) := by
  show Except.ok (t.lunar.year - (-2697)) = _
  congr 1 <;> omega

theorem fotoGetYear_val (f : Gen.Fn.Foto) : Gen.Fn.calendar_Foto_GetYear f = .ok (f.lunar.year + 544) := by
  show Except.ok (f.lunar.year - (-543) + 1) = _
  congr 1 <;> omega

theorem mi_day_test (l : Gen.Fn.Lunar) (terms : List Model.Solar) (k : Int) :
    decide (k = l.day) = ((mi_lunarToM l terms).day == k) := by
  rw [c1_beq, decide_eq_decide]; exact eq_comm

theorem fotoIsDayZhaiTen_eq (f : Gen.Fn.Foto) (terms : List Model.Solar) :
    Gen.Fn.calendar_Foto_IsDayZhaiTen f = .ok (Model.fotoZhaiTen (mi_lunarToM f.lunar terms)) := by
  simp only [Gen.Fn.calendar_Foto_IsDayZhaiTen, Gen.Fn.calendar_Foto_GetDay, mi_lunarGetDay_eq,
    c1_ok_bind, c1_pure, Model.fotoZhaiTen, mi_day_test f.lunar terms, List.contains_cons,
    List.contains_nil, Bool.or_false, Bool.or_assoc]

/-- Meaning of the atoms of `IsDayZhaiSix`: `a1` = `NewLunarMonthFromYm(lunar year, month)`,
`a2` = `nil != m`; `r` is the model's lookup of that month.  Only `dayCount` is read. -/
def mi_MonthAtom (a1 : Gen.Fn.LunarMonth) (a2 : Bool) (r : Option Model.MonthRec) : Prop :=
  match r with
  | some m => a2 = true ∧ a1.dayCount = m.dayCount
  | none => a2 = false

theorem fotoIsDayZhaiSix_eq (A : Model.Astro) (a1 : Gen.Fn.LunarMonth) (a2 : Bool) (f : Gen.Fn.Foto)
    (terms : List Model.Solar)
    (ha : f.lunar.day = 28 → mi_MonthAtom a1 a2
      (Model.findMonth (A f.lunar.year).months f.lunar.year f.lunar.month)) :
    Gen.Fn.calendar_Foto_IsDayZhaiSix a1 a2 f =
      .ok (Model.fotoZhaiSix A (mi_lunarToM f.lunar terms)) := by
  simp only [Gen.Fn.calendar_Foto_IsDayZhaiSix, Gen.Fn.calendar_Foto_GetDay, mi_lunarGetDay_eq,
    Gen.Fn.calendar_LunarMonth_GetDayCount, c1_ok_bind, c1_pure, Model.fotoZhaiSix]
  -- `rw`, unlike `simp`, also rewrites the `Decidable` instances, so `split` sees one test on both sides
  have e := mi_day_test f.lunar terms
  rw [e 8, e 14, e 15, e 23, e 29, e 30, e 28]
  split
  · rfl
  split
  · rename_i h28
    have ha := ha (eq_of_beq h28)
    unfold mi_MonthAtom at ha
    show _ = Except.ok (match Model.findMonth (A f.lunar.year).months f.lunar.year f.lunar.month with
      | some m => m.dayCount != 30 | none => false)
    revert ha
    cases Model.findMonth (A f.lunar.year).months f.lunar.year f.lunar.month with
    | none => intro ha; rw [ha]; rfl
    | some m => intro ⟨h1, h2⟩; simp [h1, h2, c1_bne, eq_comm]
  · rfl

end FnEq
