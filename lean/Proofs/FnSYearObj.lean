/-
Proofs.FnSYearObj — `LunarYear` / `LunarMonth` accessors of the string-mode generated code = the model's table reads.
Every string accessor is one read of a table (indexed by stem + 1 or by branch), its `…Desc` companion a read of
`POSITION_DESC` after it; outside the table Go's bounds check panics.
-/
import Proofs.FnSBase

namespace FnSEq
open Gen.Fn (Err)

section LunarYear
variable (ly : Gen.FnS.LunarYear)

theorem lunarYearGetGan_eq (h0 : -1 ≤ ly.ganIndex) (h1 : ly.ganIndex < 10) :
    Gen.FnS.calendar_LunarYear_GetGan ly = .ok (Model.ganStr ly.ganIndex) := by
  unfold Gen.FnS.calendar_LunarYear_GetGan; rw [sidx_GAN _ h0 h1]
theorem lunarYearGetGan_panic (h : ly.ganIndex < -1 ∨ 10 ≤ ly.ganIndex) :
    Gen.FnS.calendar_LunarYear_GetGan ly = .error .panic := by
  unfold Gen.FnS.calendar_LunarYear_GetGan; rw [sidx_GAN_panic _ h]
theorem lunarYearGetZhi_eq (h0 : -1 ≤ ly.zhiIndex) (h1 : ly.zhiIndex < 12) :
    Gen.FnS.calendar_LunarYear_GetZhi ly = .ok (Model.zhiStr ly.zhiIndex) := by
  unfold Gen.FnS.calendar_LunarYear_GetZhi; rw [sidx_ZHI _ h0 h1]
theorem lunarYearGetZhi_panic (h : ly.zhiIndex < -1 ∨ 12 ≤ ly.zhiIndex) :
    Gen.FnS.calendar_LunarYear_GetZhi ly = .error .panic := by
  unfold Gen.FnS.calendar_LunarYear_GetZhi; rw [sidx_ZHI_panic _ h]
theorem lunarYearGetGanZhi_eq (g0 : -1 ≤ ly.ganIndex) (g1 : ly.ganIndex < 10)
    (z0 : -1 ≤ ly.zhiIndex) (z1 : ly.zhiIndex < 12) :
    Gen.FnS.calendar_LunarYear_GetGanZhi ly = .ok (Model.EightChar.pillarStr ly.ganIndex ly.zhiIndex) :=
  readPillar_eq _ _ g0 g1 z0 z1
theorem lunarYearGetGanZhi_panic (h : ly.ganIndex < -1 ∨ 10 ≤ ly.ganIndex ∨ ly.zhiIndex < -1 ∨ 12 ≤ ly.zhiIndex) :
    Gen.FnS.calendar_LunarYear_GetGanZhi ly = .error .panic :=
  readPillar_panic _ _ h

@[simp] theorem lunarYearGetYear_eq : Gen.FnS.calendar_LunarYear_GetYear ly = .ok ly.year := rfl
@[simp] theorem lunarYearGetGanIndex_eq : Gen.FnS.calendar_LunarYear_GetGanIndex ly = .ok ly.ganIndex := rfl
@[simp] theorem lunarYearGetZhiIndex_eq : Gen.FnS.calendar_LunarYear_GetZhiIndex ly = .ok ly.zhiIndex := rfl

theorem lunarYearGetPositionXi_eq (h0 : -1 ≤ ly.ganIndex) (h1 : ly.ganIndex < 10) :
    Gen.FnS.calendar_LunarYear_GetPositionXi ly = .ok (Model.positionXi ly.ganIndex) :=
  sidx_succ _ 10 rfl _ h0 h1
theorem lunarYearGetPositionXi_panic (h : ly.ganIndex < -1 ∨ 10 ≤ ly.ganIndex) :
    Gen.FnS.calendar_LunarYear_GetPositionXi ly = .error .panic :=
  sidx_succ_out _ 10 rfl _ h
theorem lunarYearGetPositionXiDesc_eq (h0 : -1 ≤ ly.ganIndex) (h1 : ly.ganIndex < 10) :
    Gen.FnS.calendar_LunarYear_GetPositionXiDesc ly = .ok (Model.positionDesc (Model.positionXi ly.ganIndex)) :=
  bind_mlookupS (lunarYearGetPositionXi_eq ly h0 h1) _

theorem lunarYearGetPositionYangGui_eq (h0 : -1 ≤ ly.ganIndex) (h1 : ly.ganIndex < 10) :
    Gen.FnS.calendar_LunarYear_GetPositionYangGui ly = .ok (Model.positionYangGui ly.ganIndex) :=
  sidx_succ _ 10 rfl _ h0 h1
theorem lunarYearGetPositionYangGui_panic (h : ly.ganIndex < -1 ∨ 10 ≤ ly.ganIndex) :
    Gen.FnS.calendar_LunarYear_GetPositionYangGui ly = .error .panic :=
  sidx_succ_out _ 10 rfl _ h
theorem lunarYearGetPositionYangGuiDesc_eq (h0 : -1 ≤ ly.ganIndex) (h1 : ly.ganIndex < 10) :
    Gen.FnS.calendar_LunarYear_GetPositionYangGuiDesc ly
      = .ok (Model.positionDesc (Model.positionYangGui ly.ganIndex)) :=
  bind_mlookupS (lunarYearGetPositionYangGui_eq ly h0 h1) _

theorem lunarYearGetPositionYinGui_eq (h0 : -1 ≤ ly.ganIndex) (h1 : ly.ganIndex < 10) :
    Gen.FnS.calendar_LunarYear_GetPositionYinGui ly = .ok (Model.positionYinGui ly.ganIndex) :=
  sidx_succ _ 10 rfl _ h0 h1
theorem lunarYearGetPositionYinGui_panic (h : ly.ganIndex < -1 ∨ 10 ≤ ly.ganIndex) :
    Gen.FnS.calendar_LunarYear_GetPositionYinGui ly = .error .panic :=
  sidx_succ_out _ 10 rfl _ h
theorem lunarYearGetPositionYinGuiDesc_eq (h0 : -1 ≤ ly.ganIndex) (h1 : ly.ganIndex < 10) :
    Gen.FnS.calendar_LunarYear_GetPositionYinGuiDesc ly
      = .ok (Model.positionDesc (Model.positionYinGui ly.ganIndex)) :=
  bind_mlookupS (lunarYearGetPositionYinGui_eq ly h0 h1) _

theorem lunarYearGetPositionCai_eq (h0 : -1 ≤ ly.ganIndex) (h1 : ly.ganIndex < 10) :
    Gen.FnS.calendar_LunarYear_GetPositionCai ly = .ok (Model.positionCai ly.ganIndex) :=
  sidx_succ _ 10 rfl _ h0 h1
theorem lunarYearGetPositionCai_panic (h : ly.ganIndex < -1 ∨ 10 ≤ ly.ganIndex) :
    Gen.FnS.calendar_LunarYear_GetPositionCai ly = .error .panic :=
  sidx_succ_out _ 10 rfl _ h
theorem lunarYearGetPositionCaiDesc_eq (h0 : -1 ≤ ly.ganIndex) (h1 : ly.ganIndex < 10) :
    Gen.FnS.calendar_LunarYear_GetPositionCaiDesc ly = .ok (Model.positionDesc (Model.positionCai ly.ganIndex)) :=
  bind_mlookupS (lunarYearGetPositionCai_eq ly h0 h1) _

theorem lunarYearGetPositionFuBySect_eq (sect : Int) (h0 : -1 ≤ ly.ganIndex) (h1 : ly.ganIndex < 10) :
    Gen.FnS.calendar_LunarYear_GetPositionFuBySect ly sect = .ok (Model.positionFu ly.ganIndex sect) :=
  positionFu_read _ sect h0 h1
theorem lunarYearGetPositionFuBySect_panic (sect : Int) (h : ly.ganIndex < -1 ∨ 10 ≤ ly.ganIndex) :
    Gen.FnS.calendar_LunarYear_GetPositionFuBySect ly sect = .error .panic :=
  positionFu_panic _ sect h
theorem lunarYearGetPositionFu_eq (h0 : -1 ≤ ly.ganIndex) (h1 : ly.ganIndex < 10) :
    Gen.FnS.calendar_LunarYear_GetPositionFu ly = .ok (Model.positionFu ly.ganIndex 2) :=
  lunarYearGetPositionFuBySect_eq ly 2 h0 h1
theorem lunarYearGetPositionFuDescBySect_eq (sect : Int) (h0 : -1 ≤ ly.ganIndex) (h1 : ly.ganIndex < 10) :
    Gen.FnS.calendar_LunarYear_GetPositionFuDescBySect ly sect
      = .ok (Model.positionDesc (Model.positionFu ly.ganIndex sect)) :=
  bind_mlookupS (lunarYearGetPositionFuBySect_eq ly sect h0 h1) _
theorem lunarYearGetPositionFuDesc_eq (h0 : -1 ≤ ly.ganIndex) (h1 : ly.ganIndex < 10) :
    Gen.FnS.calendar_LunarYear_GetPositionFuDesc ly = .ok (Model.positionDesc (Model.positionFu ly.ganIndex 2)) :=
  lunarYearGetPositionFuDescBySect_eq ly 2 h0 h1

/-- NB the Tai Sui table has no leading "" entry: the index is `zhiIndex` itself, range 0..11 -/
theorem lunarYearGetPositionTaiSui_eq (h0 : 0 ≤ ly.zhiIndex) (h1 : ly.zhiIndex < 12) :
    Gen.FnS.calendar_LunarYear_GetPositionTaiSui ly = .ok (Model.positionTaiSuiYear ly.zhiIndex) :=
  sidx_in _ 12 rfl _ h0 h1
theorem lunarYearGetPositionTaiSui_panic (h : ly.zhiIndex < 0 ∨ 12 ≤ ly.zhiIndex) :
    Gen.FnS.calendar_LunarYear_GetPositionTaiSui ly = .error .panic :=
  sidx_out _ 12 rfl _ h
theorem lunarYearGetPositionTaiSuiDesc_eq (h0 : 0 ≤ ly.zhiIndex) (h1 : ly.zhiIndex < 12) :
    Gen.FnS.calendar_LunarYear_GetPositionTaiSuiDesc ly
      = .ok (Model.positionDesc (Model.positionTaiSuiYear ly.zhiIndex)) :=
  bind_mlookupS (lunarYearGetPositionTaiSui_eq ly h0 h1) _
end LunarYear

-- of `LunarMonth`, only `GetZhi` and the int getters are translated
section LunarMonth
variable (lm : Gen.FnS.LunarMonth)
theorem lunarMonthGetZhi_eq (h0 : -1 ≤ lm.zhiIndex) (h1 : lm.zhiIndex < 12) :
    Gen.FnS.calendar_LunarMonth_GetZhi lm = .ok (Model.zhiStr lm.zhiIndex) := by
  unfold Gen.FnS.calendar_LunarMonth_GetZhi; rw [sidx_ZHI _ h0 h1]
theorem lunarMonthGetZhi_panic (h : lm.zhiIndex < -1 ∨ 12 ≤ lm.zhiIndex) :
    Gen.FnS.calendar_LunarMonth_GetZhi lm = .error .panic := by
  unfold Gen.FnS.calendar_LunarMonth_GetZhi; rw [sidx_ZHI_panic _ h]
@[simp] theorem lunarMonthGetYear_eq : Gen.FnS.calendar_LunarMonth_GetYear lm = .ok lm.year := rfl
@[simp] theorem lunarMonthGetMonth_eq : Gen.FnS.calendar_LunarMonth_GetMonth lm = .ok lm.month := rfl
@[simp] theorem lunarMonthGetDayCount_eq : Gen.FnS.calendar_LunarMonth_GetDayCount lm = .ok lm.dayCount := rfl
@[simp] theorem lunarMonthGetIndex_eq : Gen.FnS.calendar_LunarMonth_GetIndex lm = .ok lm.index := rfl
@[simp] theorem lunarMonthGetZhiIndex_eq : Gen.FnS.calendar_LunarMonth_GetZhiIndex lm = .ok lm.zhiIndex := rfl
@[simp] theorem lunarMonthIsLeap_eq : Gen.FnS.calendar_LunarMonth_IsLeap lm = .ok (decide (lm.month < 0)) := rfl
end LunarMonth

end FnSEq
