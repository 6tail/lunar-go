/-
Proofs.NineStarSpec — the nine-star indices (year / month / day / hour) of `Model.NineStar`:
table facts, closed forms, ranges 0..8 (no negative index: Go's truncating `%` never sees a
negative operand), step rules, and the day star's anchor specification.
-/
import Proofs.JiaZi
import Proofs.JieQiSpec
namespace Model
open Gen.Tables

theorem star_tables_len : [Gen.Tables.calendar.NUMBER, Gen.Tables.calendar.COLOR, Gen.Tables.calendar.WU_XING, Gen.Tables.calendar.POSITION,
    Gen.Tables.calendar.NAME_BEI_DOU, Gen.Tables.calendar.NAME_XUAN_KONG, Gen.Tables.calendar.NAME_QI_MEN, Gen.Tables.calendar.BA_MEN_QI_MEN,
    Gen.Tables.calendar.NAME_TAI_YI, Gen.Tables.calendar.TYPE_TAI_YI, Gen.Tables.calendar.SONG_TAI_YI, Gen.Tables.calendar.LUCK_XUAN_KONG,
    Gen.Tables.calendar.LUCK_QI_MEN, Gen.Tables.calendar.YIN_YANG_QI_MEN].all (fun t => t.length == 9) = true := by
  decide

theorem tmod9 (a : Int) (h : 0 ≤ a) : a.tmod 9 = a % 9 := Int.tmod_eq_emod_of_nonneg h

/-- the common arithmetic of `LunarYear.GetNineStar` and `Lunar.getYearNineStar` on a year `Y ≥ −2696` whose
pillar index is `(Y − 4) % 60` -/
theorem year_star_arith (Y : Int) (hY : -2696 ≤ Y) :
    (if (62 + (Int.tdiv (Y + 2696) 60).tmod 3 * 3 - ((Y - 4) % 60 + 1)).tmod 9 = 0 then 9
      else (62 + (Int.tdiv (Y + 2696) 60).tmod 3 * 3 - ((Y - 4) % 60 + 1)).tmod 9) - 1 = (1 - Y) % 9 := by
  rw [Int.tdiv_eq_ediv_of_nonneg (by omega : 0 ≤ Y + 2696), Int.tmod_eq_emod_of_nonneg (by omega : 0 ≤ (Y + 2696) / 60),
    tmod9 _ (by omega)]
  -- three 60-year yuan make a period of 180 ≡ 0 (mod 9) years, so only the yuan `(Y + 2696) / 60 % 3` and the year
  -- within it matter; 60 ≡ 6 and 2696 ≡ 5 (mod 9) give the constant
  have : (Y - 4) / 60 = (Y + 2696) / 60 - 45 := by omega
  split <;> omega

/-- closed form of the year star: index `(1 − Y) mod 9` = `(2 + (2024 − Y)) mod 9` -/
theorem lunarYear_star_closed (Y : Int) (hY : -2696 ≤ Y) : lunarYearNineStar Y = (1 - Y) % 9 := by
  unfold lunarYearNineStar
  simp only [ganZhiIndex_cycle]
  exact year_star_arith Y hY

theorem lunarYear_star_range (Y : Int) (hY : -2696 ≤ Y) : 0 ≤ lunarYearNineStar Y ∧ lunarYearNineStar Y ≤ 8 := by
  rw [lunarYear_star_closed Y hY]; omega

theorem lunarYear_star_step (Y : Int) (hY : -2696 ≤ Y) : lunarYearNineStar (Y + 1) = (lunarYearNineStar Y + 8) % 9 := by
  rw [lunarYear_star_closed Y hY, lunarYear_star_closed (Y + 1) (by omega)]; omega

theorem star_2024 : lunarYearNineStar 2024 = 2 := by
  rw [lunarYear_star_closed 2024 (by omega)]; decide

/-- the offset between two pillar indices one item apart, brought back from ±59 to ∓1 as the Go code does -/
theorem year_offset (a δ : Int) (hδ : δ = -1 ∨ δ = 0 ∨ δ = 1) :
    (if (a + δ) % 60 + 1 - (a % 60 + 1) > 1 then (a + δ) % 60 + 1 - (a % 60 + 1) - 60
      else if (a + δ) % 60 + 1 - (a % 60 + 1) < -1 then (a + δ) % 60 + 1 - (a % 60 + 1) + 60
      else (a + δ) % 60 + 1 - (a % 60 + 1)) = δ := by
  have : (a + δ) % 60 = a % 60 + δ ∨ (a + δ) % 60 = a % 60 + δ - 60 ∨ (a + δ) % 60 = a % 60 + δ + 60 := by omega
  generalize (a + δ) % 60 = x at *
  generalize a % 60 = y at *
  split
  · omega
  · split <;> omega

/-- the Lunar's year star for a given sect equals the lunar-year star of the year whose pillar that sect reports -/
theorem year_star_of_pillar (l : Lunar) (δ : Int) (hδ : δ = -1 ∨ δ = 0 ∨ δ = 1) (hy : -2695 ≤ l.year)
    (hyg : l.yearGanIndex = (l.year - 4) % 10) (hyz : l.yearZhiIndex = (l.year - 4) % 12) :
    l.yearNineStarOf ((l.year + δ - 4) % 10) ((l.year + δ - 4) % 12) = lunarYearNineStar (l.year + δ) := by
  rw [lunarYear_star_closed _ (by omega)]
  unfold Lunar.yearNineStarOf
  rw [hyg, hyz]
  simp only [ganZhiIndex_cycle]
  rw [show l.year + δ - 4 = l.year - 4 + δ by omega, year_offset _ δ hδ, show l.year - 4 + δ = l.year + δ - 4 by omega]
  exact year_star_arith (l.year + δ) (by omega)

/-- `(mz + 10) % 12` is the month's position counted from 寅 -/
theorem month_star_closed (yz mz : Int) (hy : 0 ≤ yz ∧ yz ≤ 11) (hm : 0 ≤ mz ∧ mz ≤ 11) :
    monthNineStarOf yz mz = (25 - yz % 3 * 3 - (mz + 10) % 12) % 9 := by
  unfold monthNineStarOf LunarUtil.BASE_MONTH_ZHI_INDEX
  simp only
  rw [Int.tmod_eq_emod_of_nonneg hy.1]
  split <;> rw [tmod9 _ (by omega)] <;> omega

theorem month_star_range (yz mz : Int) (hy : 0 ≤ yz ∧ yz ≤ 11) (hm : 0 ≤ mz ∧ mz ≤ 11) :
    0 ≤ monthNineStarOf yz mz ∧ monthNineStarOf yz mz ≤ 8 := by
  rw [month_star_closed yz mz hy hm]; omega

theorem month_star_step (yz mz : Int) (hy : 0 ≤ yz ∧ yz ≤ 11) (hm : 0 ≤ mz ∧ mz ≤ 11) :
    monthNineStarOf (if mz = 1 then (yz + 1) % 12 else yz) (if mz = 1 then 2 else (mz + 1) % 12) = (monthNineStarOf yz mz + 8) % 9 := by
  rw [month_star_closed yz mz hy hm]
  split
  · rw [month_star_closed _ _ (by omega) (by omega), show (yz + 1) % 12 % 3 = (yz + 1) % 3 by omega]
    subst mz
    omega
  · rw [month_star_closed _ _ hy (by omega), show ((mz + 1) % 12 + 10) % 12 = (mz + 10) % 12 + 1 by omega]
    generalize (mz + 10) % 12 = p
    omega

/-- the month branch of lunar month `m` (leap months share their namesake's): 寅 for month 1 … 丑 for month 12;
`LunarMonth.GetNineStar` is the `Lunar` month-star formula on (year branch, month branch) -/
theorem lunarMonth_star_eq (Y m : Int) (hm : (1 ≤ m ∧ m ≤ 12) ∨ (-12 ≤ m ∧ m ≤ -1)) :
    lunarMonthNineStar Y m = monthNineStarOf ((Y - 4) % 12) (((if m < 0 then -m else m) + 1) % 12) := by
  unfold lunarMonthNineStar monthNineStarOf
  simp only
  have hm' : 1 ≤ (if m < 0 then -m else m) ∧ (if m < 0 then -m else m) ≤ 12 := by split <;> omega
  generalize (if m < 0 then -m else m) = a at hm'
  rw [Int.tmod_eq_emod_of_nonneg (show 0 ≤ 13 + a by omega), show (13 + a) % 12 = (a + 1) % 12 by omega]

theorem lunarMonth_star_range (Y m : Int) (hm : (1 ≤ m ∧ m ≤ 12) ∨ (-12 ≤ m ∧ m ≤ -1)) :
    0 ≤ lunarMonthNineStar Y m ∧ lunarMonthNineStar Y m ≤ 8 := by
  rw [lunarMonth_star_eq Y m hm]
  exact month_star_range _ _ (by omega) (by omega)

/-- both hour-star routes on abstract inputs: `asc` the direction, `b1`/`b2` the two group tests, `tz` the slot -/
theorem time_star_core (asc b1 b2 : Bool) (tz : Int) (ht : 0 ≤ tz ∧ tz ≤ 11) :
    let start : Int := if b1 then (if asc then 0 else 8) else if b2 then (if asc then 3 else 5) else (if asc then 6 else 2)
    let start' : Int := if b1 then (if asc then 1 else 9) else if b2 then (if asc then 4 else 6) else (if asc then 7 else 3)
    let index' := if asc then start' + tz - 1 else start' - tz - 1
    let index'' := if index' > 8 then index' - 9 else index'
    (if asc then start + tz else start + 9 - tz).tmod 9 = (if asc then start + tz else start - tz) % 9 ∧
    (if index'' < 0 then index'' + 9 else index'') = (if asc then start + tz else start - tz) % 9 := by
  intro start start' index' index''
  -- ascending starts are 0, 3, 6 and descending ones 8, 5, 2; the `LunarTime` route counts stars from 1
  have hs : start' = start + 1 ∧ if asc then 0 ≤ start ∧ start ≤ 6 else 2 ≤ start ∧ start ≤ 8 := by
    cases asc <;> cases b1 <;> cases b2 <;> decide
  simp only [index'', index', hs.1]
  generalize start = s at hs
  cases asc <;> simp only [if_true, if_false, Bool.false_eq_true] at hs ⊢ <;>
    exact ⟨(tmod9 _ (by omega)).trans (by omega), by split <;> split <;> omega⟩

theorem time_star_closed (l : Lunar) (ht : 0 ≤ l.timeZhiIndex ∧ l.timeZhiIndex ≤ 11) :
    let asc := (strGe l.solar.toYmd (termByName l.terms "冬至").toYmd && strLt l.solar.toYmd (termByName l.terms "夏至").toYmd) ||
             strGe l.solar.toYmd (termByName l.terms "DONG_ZHI").toYmd
    let start : Int :=
      if zhiInGroup "子午卯酉" (zhiStr l.dayZhiIndex) then (if asc then 0 else 8)
      else if zhiInGroup "辰戌丑未" (zhiStr l.dayZhiIndex) then (if asc then 3 else 5)
      else (if asc then 6 else 2)
    l.timeNineStar = (if asc then start + l.timeZhiIndex else start - l.timeZhiIndex) % 9 :=
  (time_star_core _ _ _ _ ht).1

theorem time_star_range (l : Lunar) (ht : 0 ≤ l.timeZhiIndex ∧ l.timeZhiIndex ≤ 11) :
    0 ≤ l.timeNineStar ∧ l.timeNineStar ≤ 8 := by
  rw [time_star_closed l ht]
  omega

theorem time_star_routes_agree (l : Lunar) (ht : 0 ≤ l.timeZhiIndex ∧ l.timeZhiIndex ≤ 11) :
    l.timeNineStar = l.timeNineStarViaLunarTime :=
  (time_star_closed l ht).trans (time_star_core _ _ _ _ ht).2.symm

theorem time_star_slot_step (l l' : Lunar) (hs : l'.solar.toYmd = l.solar.toYmd) (ht : l'.terms = l.terms) (hd : l'.dayZhiIndex = l.dayZhiIndex)
    (h1 : 0 ≤ l.timeZhiIndex) (h2 : l'.timeZhiIndex = l.timeZhiIndex + 1) (h3 : l'.timeZhiIndex ≤ 11) :
    l'.timeNineStar = (l.timeNineStar + 1) % 9 ∨ l'.timeNineStar = (l.timeNineStar + 8) % 9 := by
  rw [time_star_closed l ⟨h1, by omega⟩, time_star_closed l' ⟨by omega, h3⟩, hs, ht, hd, h2]
  generalize (if zhiInGroup "子午卯酉" _ = true then _ else _ : Int) = S
  split
  · left; omega
  · right; omega

/-- the jiazi day nearest to day number `n` (ties: 30 days away → the later one), `n` = day number of a solstice day -/
def anchorOf (n : Int) : Int := let i := (n - 11) % 60; if i > 29 then n + (60 - i) else n - i

theorem anchor_is_jiazi (n : Int) : (anchorOf n - 11) % 60 = 0 ∧ -29 ≤ anchorOf n - n ∧ anchorOf n - n ≤ 30 := by
  unfold anchorOf
  simp only
  split <;> omega

theorem dayJiaZiOf_eq (s : Solar) : dayJiaZiOf s = (s.jdn - 11) % 60 := by
  unfold dayJiaZiOf Solar.jdn
  simp only
  exact ganZhiIndex_cycle _

/-- the anchor computation of `GetDayNineStar` on a solstice stamp -/
theorem anchor_spec (s : Solar) (hv : s.valid = true) :
    ∃ r, (if dayJiaZiOf s > 29 then s.nextDay (60 - dayJiaZiOf s) else s.nextDay (-dayJiaZiOf s)) = some r ∧
      r.valid = true ∧ r.jdn = anchorOf s.jdn := by
  unfold anchorOf
  rw [dayJiaZiOf_eq]
  simp only
  split
  · obtain ⟨r, h1, h2, h3, _⟩ := nextDay_spec_strong s (60 - (s.jdn - 11) % 60) hv
    exact ⟨r, h1, h2, h3⟩
  · obtain ⟨r, h1, h2, h3, _⟩ := nextDay_spec_strong s (-((s.jdn - 11) % 60)) hv
    exact ⟨r, h1, h2, by omega⟩

theorem solstice_facts (y : Int) (ts : List Solar) (h : termsOk y ts = true) :
    stampValid (ts.getD 1 nilSolar) = true ∧ stampValid (ts.getD 13 nilSolar) = true ∧
    stampValid (ts.getD 25 nilSolar) = true ∧
    jdn 0 1 1 + 29 ≤ (ts.getD 1 nilSolar).jdn ∧
    (ts.getD 1 nilSolar).jdn + 175 ≤ (ts.getD 13 nilSolar).jdn ∧
    (ts.getD 13 nilSolar).jdn + 175 ≤ (ts.getD 25 nilSolar).jdn ∧
    (ts.getD 25 nilSolar).jdn + 30 ≤ jdn 9999 12 31 := by
  obtain ⟨_, hv, _, hm, _⟩ := termsOk_facts h
  have v1 := term_valid h 1
  -- entry 1 lies in a December of a year ≥ 0, entry 30 in a year ≤ 9999
  have lo := jdn_lt_iff_lex_all _ _ _ 0 12 1 (valid_parts _ v1).1 (by decide)
  have b1 := valid_md_bounds _ v1
  have y1 := (stampValid_parts _ (hv 1 (by omega))).2.1
  have hi := (term_jdn_range h 30).2
  have c1 := term_days h 1 13
  have c2 := term_days h 13 25
  have c3 := term_days h 25 30
  have : jdn 0 1 1 + 29 ≤ jdn 0 12 1 := by decide
  unfold Solar.jdn at *
  refine ⟨hv 1 (by omega), hv 13 (by omega), hv 25 (by omega), ?_, ?_, ?_, ?_⟩ <;> omega

/-- anchors: the jiazi day nearest to each solstice day (never more than 30 days away); from the winter anchor `a` to the
summer anchor `b` the star counts up from index 0, from `b` to the next winter anchor `a2` it counts down from index 8 -/
theorem day_star_spec (y : Int) (l : Lunar) (hts : termsOk y l.terms = true) (hnow : stampValid l.solar = true) :
    let a := anchorOf (l.terms.getD 1 nilSolar).jdn
    let b := anchorOf (l.terms.getD 13 nilSolar).jdn
    let a2 := anchorOf (l.terms.getD 25 nilSolar).jdn
    let t := l.solar.jdn
    l.dayNineStar = some (
      if a ≤ t ∧ t < b then (t - a) % 9
      else if b ≤ t ∧ t < a2 then 8 - (t - b) % 9
      else if a2 ≤ t then (t - a2) % 9
      else (8 + (a - t)) % 9) := by
  obtain ⟨v1, v13, v25, g0, g1, g2, g3⟩ := solstice_facts y l.terms hts
  obtain ⟨ra, ea, va, ja⟩ := anchor_spec _ (stampValid_parts _ v1).1
  obtain ⟨rb, eb, vb, jb⟩ := anchor_spec _ (stampValid_parts _ v13).1
  obtain ⟨ra2, ea2, va2, ja2⟩ := anchor_spec _ (stampValid_parts _ v25).1
  have ka := anchor_is_jiazi (l.terms.getD 1 nilSolar).jdn
  have kb := anchor_is_jiazi (l.terms.getD 13 nilSolar).jdn
  have ka2 := anchor_is_jiazi (l.terms.getD 25 nilSolar).jdn
  have sa := (stampValid_iff_jdn ra va).2 (by omega)
  have sb := (stampValid_iff_jdn rb vb).2 (by omega)
  have sa2 := (stampValid_iff_jdn ra2 va2).2 (by omega)
  have vnow := (stampValid_parts _ hnow).1
  unfold Lunar.dayNineStar
  simp only [termByName_dongZhi, termByName_xiaZhi, termByName_dongZhi2, ea, eb, ea2,
    keyOrd_jdn.ge _ _ hnow sa, keyOrd_jdn.ge _ _ hnow sb, keyOrd_jdn.ge _ _ hnow sa2,
    keyOrd_jdn.lt _ _ hnow sa, keyOrd_jdn.lt _ _ hnow sb, keyOrd_jdn.lt _ _ hnow sa2,
    subtract_eq_any _ _ vnow va, subtract_eq_any _ _ vnow vb, subtract_eq_any _ _ vnow va2, subtract_eq_any _ _ va vnow, ja, jb, ja2,
    Bool.and_eq_true, decide_eq_true_eq, Option.map_some]
  generalize anchorOf (l.terms.getD 1 nilSolar).jdn = a at *
  generalize anchorOf (l.terms.getD 13 nilSolar).jdn = b at *
  generalize anchorOf (l.terms.getD 25 nilSolar).jdn = a2 at *
  generalize l.solar.jdn = t
  have hab : a < b ∧ b < a2 := by omega
  clear g0 g1 g2 g3 ka kb ka2 ja jb ja2
  by_cases h1 : a ≤ t ∧ t < b
  · rw [if_pos h1, if_pos h1, tmod9 _ (by omega)]
  rw [if_neg h1, if_neg h1]
  by_cases h2 : b ≤ t ∧ t < a2
  · rw [if_pos h2, if_pos h2, tmod9 _ (by omega)]
  rw [if_neg h2, if_neg h2]
  by_cases h3 : a2 ≤ t
  · rw [if_pos h3, if_pos h3, tmod9 _ (by omega)]
  · rw [if_neg h3, if_neg h3, if_pos (by omega), tmod9 _ (by omega)]

theorem day_star_range (y : Int) (l : Lunar) (hts : termsOk y l.terms = true) (hnow : stampValid l.solar = true) :
    ∃ i, l.dayNineStar = some i ∧ 0 ≤ i ∧ i ≤ 8 := by
  have h := day_star_spec y l hts hnow
  simp only at h
  refine ⟨_, h, ?_⟩
  split
  · omega
  · split
    · omega
    · split <;> omega

/-- the anchors are ordered, each at least 116 days after the one before (solstices are ≥ 175 days apart, an anchor is within 30 days of its solstice) -/
theorem day_star_anchor_order (y : Int) (l : Lunar) (hts : termsOk y l.terms = true) :
    anchorOf (l.terms.getD 1 nilSolar).jdn + 116 ≤ anchorOf (l.terms.getD 13 nilSolar).jdn ∧
    anchorOf (l.terms.getD 13 nilSolar).jdn + 116 ≤ anchorOf (l.terms.getD 25 nilSolar).jdn := by
  obtain ⟨_, _, _, _, g1, g2, _⟩ := solstice_facts y l.terms hts
  have ka := anchor_is_jiazi (l.terms.getD 1 nilSolar).jdn
  have kb := anchor_is_jiazi (l.terms.getD 13 nilSolar).jdn
  have ka2 := anchor_is_jiazi (l.terms.getD 25 nilSolar).jdn
  omega

theorem zhiStr_vals : zhiStr 0 = "子" ∧ zhiStr 1 = "丑" ∧ zhiStr 2 = "寅" ∧ zhiStr 3 = "卯" ∧ zhiStr 4 = "辰" ∧ zhiStr 5 = "巳" ∧
    zhiStr 6 = "午" ∧ zhiStr 7 = "未" ∧ zhiStr 8 = "申" ∧ zhiStr 9 = "酉" ∧ zhiStr 10 = "戌" ∧ zhiStr 11 = "亥" := by decide

/-- `strings.Contains(group, branch)` for the two group strings: 子午卯酉 = branches ≡ 0 (mod 3), 辰戌丑未 = branches ≡ 1 (mod 3)
(`String.splitOn` is unrolled by rewriting, it does not reduce in the kernel) -/
theorem zhi_group_rule (z : Int) (hz : 0 ≤ z ∧ z ≤ 11) :
    zhiInGroup "子午卯酉" (zhiStr z) = decide (z % 3 = 0) ∧ zhiInGroup "辰戌丑未" (zhiStr z) = decide (z % 3 = 1) := by
  have h : z = 0 ∨ z = 1 ∨ z = 2 ∨ z = 3 ∨ z = 4 ∨ z = 5 ∨ z = 6 ∨ z = 7 ∨ z = 8 ∨ z = 9 ∨ z = 10 ∨ z = 11 := by omega
  obtain ⟨z0, z1, z2, z3, z4, z5, z6, z7, z8, z9, z10, z11⟩ := zhiStr_vals
  rcases h with rfl | rfl | rfl | rfl | rfl | rfl | rfl | rfl | rfl | rfl | rfl | rfl
  all_goals
    simp only [z0, z1, z2, z3, z4, z5, z6, z7, z8, z9, z10, z11]
    unfold zhiInGroup
    simp [String.splitOn]
    constructor <;> repeat (rw [String.splitOnAux]; simp (config := {decide := true}) only [↓reduceIte, String.Pos.Raw.unoffsetBy_zero])

/-- the hour star in full: ascending iff winter-solstice day ≤ today < summer-solstice day or today ≥ next winter-solstice day
(civil days, by day number); start index 0/3/6 ascending and 8/5/2 descending for day branch ≡ 0/1/2 (mod 3);
then one star per two-hour slot in that direction -/
theorem time_star_rule (y : Int) (l : Lunar) (hts : termsOk y l.terms = true) (hnow : stampValid l.solar = true)
    (ht : 0 ≤ l.timeZhiIndex ∧ l.timeZhiIndex ≤ 11) (hd : 0 ≤ l.dayZhiIndex ∧ l.dayZhiIndex ≤ 11) :
    let t := l.solar.jdn
    let asc : Prop := ((l.terms.getD 1 nilSolar).jdn ≤ t ∧ t < (l.terms.getD 13 nilSolar).jdn) ∨ (l.terms.getD 25 nilSolar).jdn ≤ t
    let start : Int :=
      if l.dayZhiIndex % 3 = 0 then (if asc then 0 else 8)
      else if l.dayZhiIndex % 3 = 1 then (if asc then 3 else 5)
      else (if asc then 6 else 2)
    l.timeNineStar = (if asc then start + l.timeZhiIndex else start - l.timeZhiIndex) % 9 := by
  obtain ⟨v1, v13, v25, _⟩ := solstice_facts y l.terms hts
  have c := time_star_closed l ht
  simp only at c
  rw [(zhi_group_rule _ hd).1, (zhi_group_rule _ hd).2, termByName_dongZhi, termByName_xiaZhi, termByName_dongZhi2,
    keyOrd_jdn.ge _ _ hnow v1, keyOrd_jdn.ge _ _ hnow v25, keyOrd_jdn.lt _ _ hnow v13] at c
  simp only [Bool.or_eq_true, Bool.and_eq_true, decide_eq_true_eq] at c
  simp only
  exact c

#print axioms jiazi_table
#print axioms star_tables_len
#print axioms ganZhiIndex_eq
#print axioms lunarYear_star_closed
#print axioms lunarYear_star_range
#print axioms lunarYear_star_step
#print axioms star_2024
#print axioms year_star_of_pillar
#print axioms month_star_range
#print axioms month_star_step
#print axioms lunarMonth_star_range
#print axioms time_star_range
#print axioms time_star_routes_agree
#print axioms time_star_slot_step
#print axioms anchor_is_jiazi
#print axioms day_star_spec
#print axioms day_star_range
#print axioms zhi_group_rule
#print axioms time_star_rule

end Model
