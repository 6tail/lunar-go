/-
C18 (read sets) — for every table-driven attribute accessor of Lunar / LunarTime / EightChar, the struct fields it
may read (transitively), i.e. its DEFINING INPUTS. The expectation below was written from the property statement
(day stem for god directions / Pengzu / clash stem; branch for clash animal / sha; stem-branch pair for nayin / xun;
month branch + day branch for the duty god and the heavenly spirits; month and day pillars for suitable/avoid lists;
lunar month + day pillar for spirits; lunar month + day for moon phase / six-day cycle / season; day branch + weekday
for the mansions; the sect-selected pillars for EightChar attributes) and is compared against the read sets that
gotrans REGENERATES from the source on every run (`Gen.Facts.readSets`): an accessor that starts reading another
field (e.g. the exact day branch instead of the plain one) breaks `reads_within_defining_inputs`.
-/
import Gen.Facts
namespace Props.C18Reads

def expected : List (String × List String) := [
  ("calendar.EightChar.GetDayDiShi", ["EightChar.lunar", "EightChar.sect", "Lunar.dayGanIndexExact", "Lunar.dayGanIndexExact2", "Lunar.dayZhiIndexExact", "Lunar.dayZhiIndexExact2"]),
  ("calendar.EightChar.GetDayHideGan", ["EightChar.lunar", "EightChar.sect", "Lunar.dayZhiIndexExact", "Lunar.dayZhiIndexExact2"]),
  ("calendar.EightChar.GetDayNaYin", ["EightChar.lunar", "EightChar.sect", "Lunar.dayGanIndexExact", "Lunar.dayGanIndexExact2", "Lunar.dayZhiIndexExact", "Lunar.dayZhiIndexExact2"]),
  ("calendar.EightChar.GetDayShiShenGan", []),
  ("calendar.EightChar.GetDayShiShenZhi", ["EightChar.lunar", "EightChar.sect", "Lunar.dayGanIndexExact", "Lunar.dayGanIndexExact2", "Lunar.dayZhiIndexExact", "Lunar.dayZhiIndexExact2"]),
  ("calendar.EightChar.GetDayWuXing", ["EightChar.lunar", "EightChar.sect", "Lunar.dayGanIndexExact", "Lunar.dayGanIndexExact2", "Lunar.dayZhiIndexExact", "Lunar.dayZhiIndexExact2"]),
  ("calendar.EightChar.GetDayXun", ["EightChar.lunar", "EightChar.sect", "Lunar.dayGanIndexExact", "Lunar.dayGanIndexExact2", "Lunar.dayZhiIndexExact", "Lunar.dayZhiIndexExact2"]),
  ("calendar.EightChar.GetDayXunKong", ["EightChar.lunar", "EightChar.sect", "Lunar.dayGanIndexExact", "Lunar.dayGanIndexExact2", "Lunar.dayZhiIndexExact", "Lunar.dayZhiIndexExact2"]),
  ("calendar.EightChar.GetMingGong", ["EightChar.lunar", "Lunar.monthZhiIndexExact", "Lunar.timeZhiIndex", "Lunar.yearGanIndexExact"]),
  ("calendar.EightChar.GetMingGongNaYin", ["EightChar.lunar", "Lunar.monthZhiIndexExact", "Lunar.timeZhiIndex", "Lunar.yearGanIndexExact"]),
  ("calendar.EightChar.GetMonthDiShi", ["EightChar.lunar", "EightChar.sect", "Lunar.dayGanIndexExact", "Lunar.dayGanIndexExact2", "Lunar.monthZhiIndexExact"]),
  ("calendar.EightChar.GetMonthHideGan", ["EightChar.lunar", "Lunar.monthZhiIndexExact"]),
  ("calendar.EightChar.GetMonthNaYin", ["EightChar.lunar", "Lunar.monthGanIndexExact", "Lunar.monthZhiIndexExact"]),
  ("calendar.EightChar.GetMonthShiShenGan", ["EightChar.lunar", "EightChar.sect", "Lunar.dayGanIndexExact", "Lunar.dayGanIndexExact2", "Lunar.monthGanIndexExact"]),
  ("calendar.EightChar.GetMonthShiShenZhi", ["EightChar.lunar", "EightChar.sect", "Lunar.dayGanIndexExact", "Lunar.dayGanIndexExact2", "Lunar.monthZhiIndexExact"]),
  ("calendar.EightChar.GetMonthWuXing", ["EightChar.lunar", "Lunar.monthGanIndexExact", "Lunar.monthZhiIndexExact"]),
  ("calendar.EightChar.GetMonthXun", ["EightChar.lunar", "Lunar.monthGanIndexExact", "Lunar.monthZhiIndexExact"]),
  ("calendar.EightChar.GetMonthXunKong", ["EightChar.lunar", "Lunar.monthGanIndexExact", "Lunar.monthZhiIndexExact"]),
  ("calendar.EightChar.GetShenGong", ["EightChar.lunar", "Lunar.monthZhiIndexExact", "Lunar.timeZhiIndex", "Lunar.yearGanIndexExact"]),
  ("calendar.EightChar.GetShenGongNaYin", ["EightChar.lunar", "Lunar.monthZhiIndexExact", "Lunar.timeZhiIndex", "Lunar.yearGanIndexExact"]),
  ("calendar.EightChar.GetTaiXiNaYin", ["EightChar.lunar", "EightChar.sect", "Lunar.dayGanIndexExact", "Lunar.dayGanIndexExact2", "Lunar.dayZhiIndexExact", "Lunar.dayZhiIndexExact2"]),
  ("calendar.EightChar.GetTaiYuanNaYin", ["EightChar.lunar", "Lunar.monthGanIndexExact", "Lunar.monthZhiIndexExact"]),
  ("calendar.EightChar.GetTimeDiShi", ["EightChar.lunar", "EightChar.sect", "Lunar.dayGanIndexExact", "Lunar.dayGanIndexExact2", "Lunar.timeZhiIndex"]),
  ("calendar.EightChar.GetTimeHideGan", ["EightChar.lunar", "Lunar.timeZhiIndex"]),
  ("calendar.EightChar.GetTimeNaYin", ["EightChar.lunar", "Lunar.timeGanIndex", "Lunar.timeZhiIndex"]),
  ("calendar.EightChar.GetTimeShiShenGan", ["EightChar.lunar", "EightChar.sect", "Lunar.dayGanIndexExact", "Lunar.dayGanIndexExact2", "Lunar.timeGanIndex"]),
  ("calendar.EightChar.GetTimeShiShenZhi", ["EightChar.lunar", "EightChar.sect", "Lunar.dayGanIndexExact", "Lunar.dayGanIndexExact2", "Lunar.timeZhiIndex"]),
  ("calendar.EightChar.GetTimeWuXing", ["EightChar.lunar", "Lunar.timeGanIndex", "Lunar.timeZhiIndex"]),
  ("calendar.EightChar.GetTimeXun", ["EightChar.lunar", "Lunar.timeGanIndex", "Lunar.timeZhiIndex"]),
  ("calendar.EightChar.GetTimeXunKong", ["EightChar.lunar", "Lunar.timeGanIndex", "Lunar.timeZhiIndex"]),
  ("calendar.EightChar.GetYearDiShi", ["EightChar.lunar", "EightChar.sect", "Lunar.dayGanIndexExact", "Lunar.dayGanIndexExact2", "Lunar.yearZhiIndexExact"]),
  ("calendar.EightChar.GetYearHideGan", ["EightChar.lunar", "Lunar.yearZhiIndexExact"]),
  ("calendar.EightChar.GetYearNaYin", ["EightChar.lunar", "Lunar.yearGanIndexExact", "Lunar.yearZhiIndexExact"]),
  ("calendar.EightChar.GetYearShiShenGan", ["EightChar.lunar", "EightChar.sect", "Lunar.dayGanIndexExact", "Lunar.dayGanIndexExact2", "Lunar.yearGanIndexExact"]),
  ("calendar.EightChar.GetYearShiShenZhi", ["EightChar.lunar", "EightChar.sect", "Lunar.dayGanIndexExact", "Lunar.dayGanIndexExact2", "Lunar.yearZhiIndexExact"]),
  ("calendar.EightChar.GetYearWuXing", ["EightChar.lunar", "Lunar.yearGanIndexExact", "Lunar.yearZhiIndexExact"]),
  ("calendar.EightChar.GetYearXun", ["EightChar.lunar", "Lunar.yearGanIndexExact", "Lunar.yearZhiIndexExact"]),
  ("calendar.EightChar.GetYearXunKong", ["EightChar.lunar", "Lunar.yearGanIndexExact", "Lunar.yearZhiIndexExact"]),
  ("calendar.Lunar.GetAnimal", ["Lunar.dayZhiIndex", "Lunar.weekIndex"]),
  ("calendar.Lunar.GetChong", ["Lunar.dayZhiIndex"]),
  ("calendar.Lunar.GetChongDesc", ["Lunar.dayGanIndex", "Lunar.dayZhiIndex"]),
  ("calendar.Lunar.GetChongGan", ["Lunar.dayGanIndex"]),
  ("calendar.Lunar.GetChongGanTie", ["Lunar.dayGanIndex"]),
  ("calendar.Lunar.GetChongShengXiao", ["Lunar.dayZhiIndex"]),
  ("calendar.Lunar.GetDayChong", ["Lunar.dayZhiIndex"]),
  ("calendar.Lunar.GetDayChongDesc", ["Lunar.dayGanIndex", "Lunar.dayZhiIndex"]),
  ("calendar.Lunar.GetDayChongGan", ["Lunar.dayGanIndex"]),
  ("calendar.Lunar.GetDayChongGanTie", ["Lunar.dayGanIndex"]),
  ("calendar.Lunar.GetDayChongShengXiao", ["Lunar.dayZhiIndex"]),
  ("calendar.Lunar.GetDayJi", ["Lunar.dayGanIndex", "Lunar.dayZhiIndex", "Lunar.monthGanIndex", "Lunar.monthGanIndexExact", "Lunar.monthZhiIndex", "Lunar.monthZhiIndexExact"]),
  ("calendar.Lunar.GetDayJiBySect", ["Lunar.dayGanIndex", "Lunar.dayZhiIndex", "Lunar.monthGanIndex", "Lunar.monthGanIndexExact", "Lunar.monthZhiIndex", "Lunar.monthZhiIndexExact"]),
  ("calendar.Lunar.GetDayJiShen", ["Lunar.dayGanIndex", "Lunar.dayZhiIndex", "Lunar.month"]),
  ("calendar.Lunar.GetDayLu", ["Lunar.dayGanIndex", "Lunar.dayZhiIndex"]),
  ("calendar.Lunar.GetDayNaYin", ["Lunar.dayGanIndex", "Lunar.dayZhiIndex"]),
  ("calendar.Lunar.GetDayPositionCai", ["Lunar.dayGanIndex"]),
  ("calendar.Lunar.GetDayPositionCaiDesc", ["Lunar.dayGanIndex"]),
  ("calendar.Lunar.GetDayPositionFu", ["Lunar.dayGanIndex"]),
  ("calendar.Lunar.GetDayPositionFuBySect", ["Lunar.dayGanIndex"]),
  ("calendar.Lunar.GetDayPositionFuDesc", ["Lunar.dayGanIndex"]),
  ("calendar.Lunar.GetDayPositionFuDescBySect", ["Lunar.dayGanIndex"]),
  ("calendar.Lunar.GetDayPositionTai", ["Lunar.dayGanIndex", "Lunar.dayZhiIndex"]),
  ("calendar.Lunar.GetDayPositionTaiSui", ["Lunar.dayGanIndex", "Lunar.dayGanIndexExact2", "Lunar.dayZhiIndex", "Lunar.dayZhiIndexExact2", "Lunar.yearZhiIndex", "Lunar.yearZhiIndexByLiChun", "Lunar.yearZhiIndexExact"]),
  ("calendar.Lunar.GetDayPositionTaiSuiBySect", ["Lunar.dayGanIndex", "Lunar.dayGanIndexExact2", "Lunar.dayZhiIndex", "Lunar.dayZhiIndexExact2", "Lunar.yearZhiIndex", "Lunar.yearZhiIndexByLiChun", "Lunar.yearZhiIndexExact"]),
  ("calendar.Lunar.GetDayPositionTaiSuiDesc", ["Lunar.dayGanIndex", "Lunar.dayGanIndexExact2", "Lunar.dayZhiIndex", "Lunar.dayZhiIndexExact2", "Lunar.yearZhiIndex", "Lunar.yearZhiIndexByLiChun", "Lunar.yearZhiIndexExact"]),
  ("calendar.Lunar.GetDayPositionTaiSuiDescBySect", ["Lunar.dayGanIndex", "Lunar.dayGanIndexExact2", "Lunar.dayZhiIndex", "Lunar.dayZhiIndexExact2", "Lunar.yearZhiIndex", "Lunar.yearZhiIndexByLiChun", "Lunar.yearZhiIndexExact"]),
  ("calendar.Lunar.GetDayPositionXi", ["Lunar.dayGanIndex"]),
  ("calendar.Lunar.GetDayPositionXiDesc", ["Lunar.dayGanIndex"]),
  ("calendar.Lunar.GetDayPositionYangGui", ["Lunar.dayGanIndex"]),
  ("calendar.Lunar.GetDayPositionYangGuiDesc", ["Lunar.dayGanIndex"]),
  ("calendar.Lunar.GetDayPositionYinGui", ["Lunar.dayGanIndex"]),
  ("calendar.Lunar.GetDayPositionYinGuiDesc", ["Lunar.dayGanIndex"]),
  ("calendar.Lunar.GetDaySha", ["Lunar.dayZhiIndex"]),
  ("calendar.Lunar.GetDayTianShen", ["Lunar.dayZhiIndex", "Lunar.monthZhiIndex"]),
  ("calendar.Lunar.GetDayTianShenLuck", ["Lunar.dayZhiIndex", "Lunar.monthZhiIndex"]),
  ("calendar.Lunar.GetDayTianShenType", ["Lunar.dayZhiIndex", "Lunar.monthZhiIndex"]),
  ("calendar.Lunar.GetDayXiongSha", ["Lunar.dayGanIndex", "Lunar.dayZhiIndex", "Lunar.month"]),
  ("calendar.Lunar.GetDayXun", ["Lunar.dayGanIndex", "Lunar.dayZhiIndex"]),
  ("calendar.Lunar.GetDayXunExact", ["Lunar.dayGanIndexExact", "Lunar.dayZhiIndexExact"]),
  ("calendar.Lunar.GetDayXunExact2", ["Lunar.dayGanIndexExact2", "Lunar.dayZhiIndexExact2"]),
  ("calendar.Lunar.GetDayXunKong", ["Lunar.dayGanIndex", "Lunar.dayZhiIndex"]),
  ("calendar.Lunar.GetDayXunKongExact", ["Lunar.dayGanIndexExact", "Lunar.dayZhiIndexExact"]),
  ("calendar.Lunar.GetDayXunKongExact2", ["Lunar.dayGanIndexExact2", "Lunar.dayZhiIndexExact2"]),
  ("calendar.Lunar.GetDayYi", ["Lunar.dayGanIndex", "Lunar.dayZhiIndex", "Lunar.monthGanIndex", "Lunar.monthGanIndexExact", "Lunar.monthZhiIndex", "Lunar.monthZhiIndexExact"]),
  ("calendar.Lunar.GetDayYiBySect", ["Lunar.dayGanIndex", "Lunar.dayZhiIndex", "Lunar.monthGanIndex", "Lunar.monthGanIndexExact", "Lunar.monthZhiIndex", "Lunar.monthZhiIndexExact"]),
  ("calendar.Lunar.GetGong", ["Lunar.dayZhiIndex", "Lunar.weekIndex"]),
  ("calendar.Lunar.GetLiuYao", ["Lunar.day", "Lunar.month"]),
  ("calendar.Lunar.GetMonthNaYin", ["Lunar.monthGanIndex", "Lunar.monthZhiIndex"]),
  ("calendar.Lunar.GetMonthPositionTai", ["Lunar.month"]),
  ("calendar.Lunar.GetMonthPositionTaiSui", ["Lunar.monthGanIndex", "Lunar.monthGanIndexExact", "Lunar.monthZhiIndex", "Lunar.monthZhiIndexExact"]),
  ("calendar.Lunar.GetMonthPositionTaiSuiBySect", ["Lunar.monthGanIndex", "Lunar.monthGanIndexExact", "Lunar.monthZhiIndex", "Lunar.monthZhiIndexExact"]),
  ("calendar.Lunar.GetMonthPositionTaiSuiDesc", ["Lunar.monthGanIndex", "Lunar.monthGanIndexExact", "Lunar.monthZhiIndex", "Lunar.monthZhiIndexExact"]),
  ("calendar.Lunar.GetMonthPositionTaiSuiDescBySect", ["Lunar.monthGanIndex", "Lunar.monthGanIndexExact", "Lunar.monthZhiIndex", "Lunar.monthZhiIndexExact"]),
  ("calendar.Lunar.GetMonthXun", ["Lunar.monthGanIndex", "Lunar.monthZhiIndex"]),
  ("calendar.Lunar.GetMonthXunExact", ["Lunar.monthGanIndexExact", "Lunar.monthZhiIndexExact"]),
  ("calendar.Lunar.GetMonthXunKong", ["Lunar.monthGanIndex", "Lunar.monthZhiIndex"]),
  ("calendar.Lunar.GetMonthXunKongExact", ["Lunar.monthGanIndexExact", "Lunar.monthZhiIndexExact"]),
  ("calendar.Lunar.GetPengZuGan", ["Lunar.dayGanIndex"]),
  ("calendar.Lunar.GetPengZuZhi", ["Lunar.dayZhiIndex"]),
  ("calendar.Lunar.GetPositionCai", ["Lunar.dayGanIndex"]),
  ("calendar.Lunar.GetPositionCaiDesc", ["Lunar.dayGanIndex"]),
  ("calendar.Lunar.GetPositionFu", ["Lunar.dayGanIndex"]),
  ("calendar.Lunar.GetPositionFuDesc", ["Lunar.dayGanIndex"]),
  ("calendar.Lunar.GetPositionXi", ["Lunar.dayGanIndex"]),
  ("calendar.Lunar.GetPositionXiDesc", ["Lunar.dayGanIndex"]),
  ("calendar.Lunar.GetPositionYangGui", ["Lunar.dayGanIndex"]),
  ("calendar.Lunar.GetPositionYangGuiDesc", ["Lunar.dayGanIndex"]),
  ("calendar.Lunar.GetPositionYinGui", ["Lunar.dayGanIndex"]),
  ("calendar.Lunar.GetPositionYinGuiDesc", ["Lunar.dayGanIndex"]),
  ("calendar.Lunar.GetSeason", ["Lunar.month"]),
  ("calendar.Lunar.GetSha", ["Lunar.dayZhiIndex"]),
  ("calendar.Lunar.GetShou", ["Lunar.dayZhiIndex", "Lunar.weekIndex"]),
  ("calendar.Lunar.GetTimeChong", ["Lunar.timeZhiIndex"]),
  ("calendar.Lunar.GetTimeChongDesc", ["Lunar.timeGanIndex", "Lunar.timeZhiIndex"]),
  ("calendar.Lunar.GetTimeChongGan", ["Lunar.timeGanIndex"]),
  ("calendar.Lunar.GetTimeChongGanTie", ["Lunar.timeGanIndex"]),
  ("calendar.Lunar.GetTimeChongShengXiao", ["Lunar.timeZhiIndex"]),
  ("calendar.Lunar.GetTimeJi", ["Lunar.dayGanIndexExact", "Lunar.dayZhiIndexExact", "Lunar.timeGanIndex", "Lunar.timeZhiIndex"]),
  ("calendar.Lunar.GetTimeNaYin", ["Lunar.timeGanIndex", "Lunar.timeZhiIndex"]),
  ("calendar.Lunar.GetTimePositionCai", ["Lunar.timeGanIndex"]),
  ("calendar.Lunar.GetTimePositionCaiDesc", ["Lunar.timeGanIndex"]),
  ("calendar.Lunar.GetTimePositionFu", ["Lunar.timeGanIndex"]),
  ("calendar.Lunar.GetTimePositionFuDesc", ["Lunar.timeGanIndex"]),
  ("calendar.Lunar.GetTimePositionXi", ["Lunar.timeGanIndex"]),
  ("calendar.Lunar.GetTimePositionXiDesc", ["Lunar.timeGanIndex"]),
  ("calendar.Lunar.GetTimePositionYangGui", ["Lunar.timeGanIndex"]),
  ("calendar.Lunar.GetTimePositionYangGuiDesc", ["Lunar.timeGanIndex"]),
  ("calendar.Lunar.GetTimePositionYinGui", ["Lunar.timeGanIndex"]),
  ("calendar.Lunar.GetTimePositionYinGuiDesc", ["Lunar.timeGanIndex"]),
  ("calendar.Lunar.GetTimeSha", ["Lunar.timeZhiIndex"]),
  ("calendar.Lunar.GetTimeTianShen", ["Lunar.dayZhiIndexExact", "Lunar.timeZhiIndex"]),
  ("calendar.Lunar.GetTimeTianShenLuck", ["Lunar.dayZhiIndexExact", "Lunar.timeZhiIndex"]),
  ("calendar.Lunar.GetTimeTianShenType", ["Lunar.dayZhiIndexExact", "Lunar.timeZhiIndex"]),
  ("calendar.Lunar.GetTimeXun", ["Lunar.timeGanIndex", "Lunar.timeZhiIndex"]),
  ("calendar.Lunar.GetTimeXunKong", ["Lunar.timeGanIndex", "Lunar.timeZhiIndex"]),
  ("calendar.Lunar.GetTimeYi", ["Lunar.dayGanIndexExact", "Lunar.dayZhiIndexExact", "Lunar.timeGanIndex", "Lunar.timeZhiIndex"]),
  ("calendar.Lunar.GetXiu", ["Lunar.dayZhiIndex", "Lunar.weekIndex"]),
  ("calendar.Lunar.GetXiuLuck", ["Lunar.dayZhiIndex", "Lunar.weekIndex"]),
  ("calendar.Lunar.GetXiuSong", ["Lunar.dayZhiIndex", "Lunar.weekIndex"]),
  ("calendar.Lunar.GetYearNaYin", ["Lunar.yearGanIndex", "Lunar.yearZhiIndex"]),
  ("calendar.Lunar.GetYearPositionTaiSui", ["Lunar.yearZhiIndex", "Lunar.yearZhiIndexByLiChun", "Lunar.yearZhiIndexExact"]),
  ("calendar.Lunar.GetYearPositionTaiSuiBySect", ["Lunar.yearZhiIndex", "Lunar.yearZhiIndexByLiChun", "Lunar.yearZhiIndexExact"]),
  ("calendar.Lunar.GetYearPositionTaiSuiDesc", ["Lunar.yearZhiIndex", "Lunar.yearZhiIndexByLiChun", "Lunar.yearZhiIndexExact"]),
  ("calendar.Lunar.GetYearPositionTaiSuiDescBySect", ["Lunar.yearZhiIndex", "Lunar.yearZhiIndexByLiChun", "Lunar.yearZhiIndexExact"]),
  ("calendar.Lunar.GetYearXun", ["Lunar.yearGanIndex", "Lunar.yearZhiIndex"]),
  ("calendar.Lunar.GetYearXunByLiChun", ["Lunar.yearGanIndexByLiChun", "Lunar.yearZhiIndexByLiChun"]),
  ("calendar.Lunar.GetYearXunExact", ["Lunar.yearGanIndexExact", "Lunar.yearZhiIndexExact"]),
  ("calendar.Lunar.GetYearXunKong", ["Lunar.yearGanIndex", "Lunar.yearZhiIndex"]),
  ("calendar.Lunar.GetYearXunKongByLiChun", ["Lunar.yearGanIndexByLiChun", "Lunar.yearZhiIndexByLiChun"]),
  ("calendar.Lunar.GetYearXunKongExact", ["Lunar.yearGanIndexExact", "Lunar.yearZhiIndexExact"]),
  ("calendar.Lunar.GetYueXiang", ["Lunar.day"]),
  ("calendar.Lunar.GetZheng", ["Lunar.dayZhiIndex", "Lunar.weekIndex"]),
  ("calendar.Lunar.GetZhiXing", ["Lunar.dayZhiIndex", "Lunar.monthZhiIndex"]),
  ("calendar.LunarTime.GetChong", ["LunarTime.zhiIndex"]),
  ("calendar.LunarTime.GetChongDesc", ["LunarTime.ganIndex", "LunarTime.zhiIndex"]),
  ("calendar.LunarTime.GetChongGan", ["LunarTime.ganIndex"]),
  ("calendar.LunarTime.GetChongGanTie", ["LunarTime.ganIndex"]),
  ("calendar.LunarTime.GetChongShengXiao", ["LunarTime.zhiIndex"]),
  ("calendar.LunarTime.GetJi", ["Lunar.dayGanIndexExact", "Lunar.dayZhiIndexExact", "LunarTime.ganIndex", "LunarTime.lunar", "LunarTime.zhiIndex"]),
  ("calendar.LunarTime.GetNaYin", ["LunarTime.ganIndex", "LunarTime.zhiIndex"]),
  ("calendar.LunarTime.GetPositionCai", ["LunarTime.ganIndex"]),
  ("calendar.LunarTime.GetPositionCaiDesc", ["LunarTime.ganIndex"]),
  ("calendar.LunarTime.GetPositionFu", ["LunarTime.ganIndex"]),
  ("calendar.LunarTime.GetPositionFuBySect", ["LunarTime.ganIndex"]),
  ("calendar.LunarTime.GetPositionFuDesc", ["LunarTime.ganIndex"]),
  ("calendar.LunarTime.GetPositionFuDescBySect", ["LunarTime.ganIndex"]),
  ("calendar.LunarTime.GetPositionXi", ["LunarTime.ganIndex"]),
  ("calendar.LunarTime.GetPositionXiDesc", ["LunarTime.ganIndex"]),
  ("calendar.LunarTime.GetPositionYangGui", ["LunarTime.ganIndex"]),
  ("calendar.LunarTime.GetPositionYangGuiDesc", ["LunarTime.ganIndex"]),
  ("calendar.LunarTime.GetPositionYinGui", ["LunarTime.ganIndex"]),
  ("calendar.LunarTime.GetPositionYinGuiDesc", ["LunarTime.ganIndex"]),
  ("calendar.LunarTime.GetSha", ["LunarTime.zhiIndex"]),
  ("calendar.LunarTime.GetTianShen", ["Lunar.dayZhiIndexExact", "LunarTime.lunar", "LunarTime.zhiIndex"]),
  ("calendar.LunarTime.GetTianShenLuck", ["Lunar.dayZhiIndexExact", "LunarTime.lunar", "LunarTime.zhiIndex"]),
  ("calendar.LunarTime.GetTianShenType", ["Lunar.dayZhiIndexExact", "LunarTime.lunar", "LunarTime.zhiIndex"]),
  ("calendar.LunarTime.GetXun", ["LunarTime.ganIndex", "LunarTime.zhiIndex"]),
  ("calendar.LunarTime.GetXunKong", ["LunarTime.ganIndex", "LunarTime.zhiIndex"]),
  ("calendar.LunarTime.GetYi", ["Lunar.dayGanIndexExact", "Lunar.dayZhiIndexExact", "LunarTime.ganIndex", "LunarTime.lunar", "LunarTime.zhiIndex"])
]

def fieldsOf (name : String) : Option (List String) :=
  match Gen.Facts.readSets.find? (fun r => r.1 == name) with
  | some r => some r.2.1
  | none => none

set_option maxRecDepth 100000

/-- equal strings have equal byte lengths, so the lengths may be compared first -/
theorem beq_eq_size_and_beq (a b : String) : (a == b) = (a.utf8ByteSize == b.utf8ByteSize && a == b) := by
  by_cases h : a = b
  · subst h; simp
  · simp [h]

/-- every listed accessor exists in the source and reads only fields among its defining inputs -/
theorem reads_within_defining_inputs :
    expected.all (fun e => match fieldsOf e.1 with
      | some fs => fs.all (fun f => e.2.contains f)
      | none => false) = true := by
  -- The kernel pays for a string comparison by the length of the common prefix, and the 170 × 600 method names
  -- nearly all begin alike: the lookup is evaluated with the byte lengths compared before the bytes.
  have h : fieldsOf = fun name =>
      match Gen.Facts.readSets.find? (fun r => r.1.utf8ByteSize == name.utf8ByteSize && r.1 == name) with
      | some r => some r.2.1
      | none => none := by
    funext name
    simp only [fieldsOf, ← beq_eq_size_and_beq]
  rw [h]
  decide +kernel

end Props.C18Reads
